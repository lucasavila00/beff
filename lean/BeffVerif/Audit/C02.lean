import BeffVerif.Props.C02
import BeffVerif.Props.C02Sound
import BeffVerif.Props.C02Complete
import BeffVerif.Props.C16Refs
import BeffVerif.Props.Consts
import BeffVerif.Props.C02NonJson
open BeffVerif.C02
#print axioms valid_type_only
#print axioms typeof_exact
#print axioms nullish_exact
#print axioms any_exact
#print axioms never_exact
#print axioms nonjson_leaves_throw
#print axioms nested_nonjson_throws
#print axioms tuple_schema_has_minItems
#print axioms template_schema_pattern
#print axioms required_undefined_accepting_prop
#print axioms BeffVerif.C02E.valid_mono
#print axioms BeffVerif.C02F.lookup_setProp
#print axioms BeffVerif.C02F.valid_annotate
#print axioms BeffVerif.C02F.valid_tuple_true
#print axioms BeffVerif.C02F.valid_object_true
#print axioms BeffVerif.C02F.rnb_sem
#print axioms BeffVerif.C02F.validate_null_undef
#print axioms BeffVerif.C02F.good_core
#print axioms BeffVerif.C02F.validate_frag_answers
#print axioms BeffVerif.C02F.schema_sound_frag
#print axioms BeffVerif.C02F.validate_frag_no_throw
#print axioms BeffVerif.C02F.fragment_example
#print axioms BeffVerif.C02F.rnb_def
#print axioms BeffVerif.C02F.total_core
#print axioms BeffVerif.C02F.validate_frag_stable
#print axioms BeffVerif.C02F.complete_core
#print axioms BeffVerif.C02F.schema_complete_frag
#print axioms BeffVerif.C02F.schema_total_frag
#print axioms BeffVerif.C02F.schema_exact_frag
#print axioms BeffVerif.C02F.fragment_example_converse
#print axioms BeffVerif.C16R.definition_refs_resolve
#print axioms BeffVerif.C16R.returned_refs_resolve
#print axioms BeffVerif.Consts.mergeable_keys_current
#print axioms BeffVerif.C16R.schema_flat_no_refs
#print axioms BeffVerif.C02N.flat_ok_njFree
#print axioms BeffVerif.C02N.flat_throws_on_nonjson
