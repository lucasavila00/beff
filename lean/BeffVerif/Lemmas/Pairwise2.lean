/-!
Element-wise relation of two lists (core Lean has no `List.Forall₂`): used by the C13 and C01 proofs to relate the
children of two nodes position by position.
-/
namespace BeffVerif

/-- element-wise relation of two lists of the same length (the "2" is for two lists; core's `List.Pairwise` relates the
elements of one) -/
def Pairwise2 {α β : Type} (P : α → β → Prop) : List α → List β → Prop
  | [], [] => True
  | x :: xs, y :: ys => P x y ∧ Pairwise2 P xs ys
  | _, _ => False

@[elab_as_elim]
theorem pairwise2_induct {α β : Type} {P : α → β → Prop} {motive : List α → List β → Prop} (nil : motive [] [])
    (cons : ∀ {x xs y ys}, P x y → Pairwise2 P xs ys → motive xs ys → motive (x :: xs) (y :: ys)) :
    ∀ {xs : List α} {ys : List β}, Pairwise2 P xs ys → motive xs ys
  | [], [], _ => nil
  | _ :: _, _ :: _, h => cons h.1 h.2 (pairwise2_induct nil cons h.2)
  | [], _ :: _, h => h.elim
  | _ :: _, [], h => h.elim

theorem pairwise2_length {α β : Type} {P : α → β → Prop} : ∀ {xs : List α} {ys : List β},
    Pairwise2 P xs ys → xs.length = ys.length := fun h =>
  pairwise2_induct rfl (fun _ _ ih => congrArg (· + 1) ih) h

theorem pairwise2_left {α β : Type} {P : α → β → Prop} : ∀ {xs : List α} {ys : List β},
    Pairwise2 P xs ys → ∀ x ∈ xs, ∃ y ∈ ys, P x y := fun h =>
  pairwise2_induct (fun _ hx => nomatch hx) (fun {_ _ y _} hxy _ ih x hx => by
    rcases List.mem_cons.1 hx with rfl | hx
    · exact ⟨y, List.mem_cons_self, hxy⟩
    · obtain ⟨y', hy', hp⟩ := ih x hx
      exact ⟨y', List.mem_cons_of_mem _ hy', hp⟩) h

theorem pairwise2_right {α β : Type} {P : α → β → Prop} : ∀ {xs : List α} {ys : List β},
    Pairwise2 P xs ys → ∀ y ∈ ys, ∃ x ∈ xs, P x y := fun h =>
  pairwise2_induct (fun _ hy => nomatch hy) (fun {x _ _ _} hxy _ ih y hy => by
    rcases List.mem_cons.1 hy with rfl | hy
    · exact ⟨x, List.mem_cons_self, hxy⟩
    · obtain ⟨x', hx', hp⟩ := ih y hy
      exact ⟨x', List.mem_cons_of_mem _ hx', hp⟩) h

theorem pairwise2_mono_mem {α β : Type} {P Q : α → β → Prop} : ∀ {xs : List α} {ys : List β},
    (∀ a ∈ xs, ∀ b, P a b → Q a b) → Pairwise2 P xs ys → Pairwise2 Q xs ys := fun hpq h =>
  pairwise2_induct (fun _ => trivial)
    (fun hxy _ ih hpq => ⟨hpq _ List.mem_cons_self _ hxy, ih fun a ha => hpq a (List.mem_cons_of_mem _ ha)⟩) h hpq

theorem pairwise2_mono {α β : Type} {P Q : α → β → Prop} (hpq : ∀ a b, P a b → Q a b) : ∀ {xs : List α} {ys : List β},
    Pairwise2 P xs ys → Pairwise2 Q xs ys :=
  pairwise2_mono_mem fun a _ => hpq a

theorem pairwise2_zip {α β γ : Type} {P : α → β → Prop} : ∀ (xs : List α) (ys : List β) (r : List γ),
    Pairwise2 P xs ys → Pairwise2 (fun (a : α × γ) (b : β × γ) => P a.1 b.1 ∧ a.2 = b.2) (xs.zip r) (ys.zip r) :=
  fun _ _ r h =>
    pairwise2_induct (fun _ => trivial)
      (fun hxy _ ih r => match r with
        | [] => trivial
        | _ :: r => ⟨⟨hxy, rfl⟩, ih r⟩) h r

theorem pairwise2_map_left {α β γ : Type} {P : γ → β → Prop} (f : α → γ) : ∀ {xs : List α} {ys : List β},
    Pairwise2 (fun a b => P (f a) b) xs ys → Pairwise2 P (xs.map f) ys := fun h =>
  pairwise2_induct trivial (fun hxy _ ih => ⟨hxy, ih⟩) h

theorem pairwise2_zip_self {α β : Type} {P : α → β → Prop} : ∀ {xs : List α} {ys : List β},
    Pairwise2 P xs ys → Pairwise2 (fun (p : β × α) (b : β) => p.1 = b ∧ P p.2 b) (ys.zip xs) ys := fun h =>
  pairwise2_induct trivial (fun hxy _ ih => ⟨⟨rfl, hxy⟩, ih⟩) h

end BeffVerif
