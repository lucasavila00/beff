import BeffVerif.Model.Report
/-!
Lemmas for the runtime layer (C01, C02, C03, C11, C12, C13).

`validateStep` / `reportStep` are the bodies of the fuel recursions `validate` / `report` with the recursive calls abstracted
(`validate_succ`, `report_succ` by `rfl`): theorems are proved about one step from hypotheses on the children (`Child`), then by
a two-line induction on the fuel. `validateStep` combines its children's answers with `Res.andThen` / `Res.orElse` only, so any
relation these two respect (`Res.Respects`) passes from the children to the node (`validateStep_rel`); strict versus default
mode, absence of exceptions and fuel monotonicity are instances. `Res.Holds P T` plays that part for the error-collecting and
parsing code.
-/
namespace BeffVerif

theorem eq_of_ite_pos {α : Type} {c : Prop} [Decidable c] {a b r : α} (hc : c) (h : (if c then a else b) = r) : a = r :=
  (if_pos hc).symm.trans h

theorem eq_of_ite_neg {α : Type} {c : Prop} [Decidable c] {a b r : α} (hc : ¬c) (h : (if c then a else b) = r) : b = r :=
  (if_neg hc).symm.trans h

/-- `Array.prototype.includes` (SameValueZero) and `===` differ on numbers at `NaN` only -/
theorem JsVal.numSameValueZero_eq_strict {a : String} (ha : a ≠ "NaN") (b : String) :
    JsVal.numSameValueZero a b = JsVal.numStrictEq b a := by
  unfold JsVal.numSameValueZero JsVal.numStrictEq
  rw [beq_eq_false_iff_ne.2 ha, Bool.or_false]
  by_cases hb : b = "NaN"
  · -- `a` normalises to "0" or to itself, and neither is "NaN"
    subst hb
    have hN : (if (a == "-0") = true then "0" else a) ≠ "NaN" := by
      split
      · simp only [ne_eq, String.reduceEq, not_false_eq_true]
      · exact ha
    exact beq_eq_false_iff_ne.2 hN
  · rw [beq_eq_false_iff_ne.2 hb]; exact Bool.beq_comm

namespace Res

def andThen (a b : Res Bool) : Res Bool :=
  match a with
  | .ok true => b
  | r => r

def orElse (a b : Res Bool) : Res Bool :=
  match a with
  | .ok false => b
  | r => r

theorem andThen_eq_true {a b : Res Bool} : a.andThen b = .ok true ↔ a = .ok true ∧ b = .ok true := by
  cases a with
  | ok x => cases x <;> simp [andThen]
  | _ => simp [andThen]

theorem andThen_eq_false {a b : Res Bool} : a.andThen b = .ok false ↔ a = .ok false ∨ a = .ok true ∧ b = .ok false := by
  cases a with
  | ok x => cases x <;> simp [andThen]
  | _ => simp [andThen]

theorem andThen_eq_throw {a b : Res Bool} {c : String} :
    a.andThen b = .throw c ↔ a = .throw c ∨ a = .ok true ∧ b = .throw c := by
  cases a with
  | ok x => cases x <;> simp [andThen]
  | _ => simp [andThen]

theorem orElse_eq_true {a b : Res Bool} : a.orElse b = .ok true ↔ a = .ok true ∨ a = .ok false ∧ b = .ok true := by
  cases a with
  | ok x => cases x <;> simp [orElse]
  | _ => simp [orElse]

theorem orElse_eq_false {a b : Res Bool} : a.orElse b = .ok false ↔ a = .ok false ∧ b = .ok false := by
  cases a with
  | ok x => cases x <;> simp [orElse]
  | _ => simp [orElse]

theorem orElse_eq_throw {a b : Res Bool} {c : String} :
    a.orElse b = .throw c ↔ a = .throw c ∨ a = .ok false ∧ b = .throw c := by
  cases a with
  | ok x => cases x <;> simp [orElse]
  | _ => simp [orElse]

theorem andThen_eq_nofuel {a b : Res Bool} : a.andThen b = .nofuel ↔ a = .nofuel ∨ a = .ok true ∧ b = .nofuel := by
  cases a with
  | ok x => cases x <;> simp [andThen]
  | _ => simp [andThen]

theorem orElse_eq_nofuel {a b : Res Bool} : a.orElse b = .nofuel ↔ a = .nofuel ∨ a = .ok false ∧ b = .nofuel := by
  cases a with
  | ok x => cases x <;> simp [orElse]
  | _ => simp [orElse]

structure Respects (R : Res Bool → Res Bool → Prop) : Prop where
  ok : ∀ b, R (.ok b) (.ok b)
  andThen : ∀ {a a' b b'}, R a a' → R b b' → R (a.andThen b) (a'.andThen b')
  orElse : ∀ {a a' b b'}, R a a' → R b b' → R (a.orElse b) (a'.orElse b')

theorem respects_eq : Respects Eq where
  ok _ := rfl
  andThen ha hb := ha ▸ hb ▸ rfl
  orElse ha hb := ha ▸ hb ▸ rfl

theorem respects_notRejected : Respects fun r s => r = .ok true → s ≠ .ok false where
  ok _ h := by rw [h]; exact nofun
  andThen ha hb h h' := by
    obtain ⟨h1, h2⟩ := andThen_eq_true.1 h
    rcases andThen_eq_false.1 h' with e | ⟨_, e⟩
    · exact ha h1 e
    · exact hb h2 e
  orElse ha hb h h' := by
    obtain ⟨e1, e2⟩ := orElse_eq_false.1 h'
    rcases orElse_eq_true.1 h with h1 | ⟨_, h2⟩
    · exact ha h1 e1
    · exact hb h2 e2

/-- A property of the left result alone, written as a relation that ignores its right side: `validateStep_rel` is then used
with the step compared with itself (likewise `respects_fuel`). -/
theorem respects_noThrow : Respects fun r _ => ∀ c, r ≠ .throw c where
  ok _ _ := nofun
  andThen ha hb c h := by
    rcases andThen_eq_throw.1 h with e | ⟨_, e⟩
    · exact ha c e
    · exact hb c e
  orElse ha hb c h := by
    rcases orElse_eq_throw.1 h with e | ⟨_, e⟩
    · exact ha c e
    · exact hb c e

theorem respects_fuel : Respects fun r _ => r ≠ .nofuel where
  ok _ := nofun
  andThen ha hb h := by
    rcases andThen_eq_nofuel.1 h with e | ⟨_, e⟩
    · exact ha e
    · exact hb e
  orElse ha hb h := by
    rcases orElse_eq_nofuel.1 h with e | ⟨_, e⟩
    · exact ha e
    · exact hb e

theorem respects_answered : Respects fun r s => r ≠ .nofuel → s = r where
  ok _ _ := rfl
  andThen {a _ _ _} ha hb h := by
    rw [ha fun e => h (andThen_eq_nofuel.2 (.inl e))]
    cases a with
    | ok x => cases x with
      | true => exact hb h
      | false => rfl
    | _ => rfl
  orElse {a _ _ _} ha hb h := by
    rw [ha fun e => h (orElse_eq_nofuel.2 (.inl e))]
    cases a with
    | ok x => cases x with
      | true => rfl
      | false => exact hb h
    | _ => rfl

/-- `P` of the value returned, `T` of the exception thrown; nothing is claimed when the fuel runs out -/
def Holds {α : Type} (P : α → Prop) (T : String → Prop) : Res α → Prop
  | .ok a => P a
  | .throw c => T c
  | .nofuel => True

theorem holds_trivial {α : Type} (r : Res α) : r.Holds (fun _ => True) (fun _ => True) := by
  cases r <;> trivial

theorem holds_of_ne_throw {α : Type} {r : Res α} (h : ∀ c, r ≠ .throw c) : r.Holds (fun _ => True) (fun _ => False) := by
  cases r with
  | throw c => exact h c rfl
  | _ => trivial

theorem holds_of_ok {α : Type} {P : α → Prop} {r : Res α} (h : ∀ a, r = .ok a → P a) : r.Holds P fun _ => True := by
  cases r with
  | ok a => exact h a rfl
  | _ => trivial

theorem Holds.of_ok {α : Type} {P : α → Prop} {T : String → Prop} {r : Res α} (h : r.Holds P T) {a : α} (e : r = .ok a) :
    P a := by
  subst e; exact h

theorem Holds.ne_throw {α : Type} {P : α → Prop} {r : Res α} (h : r.Holds P fun _ => False) (c : String) : r ≠ .throw c := by
  intro e; subst e; exact h

theorem Holds.mono {α : Type} {P P' : α → Prop} {T : String → Prop} {r : Res α} (h : r.Holds P T) (hP : ∀ a, P a → P' a) :
    r.Holds P' T := by
  cases r with
  | ok a => exact hP a h
  | _ => exact h

theorem Holds.ite {α : Type} {P : α → Prop} {T : String → Prop} {c : Prop} [Decidable c] {a b : Res α}
    (ht : c → a.Holds P T) (he : ¬c → b.Holds P T) : (if c then a else b).Holds P T := by
  split
  · exact ht ‹_›
  · exact he ‹_›

end Res

namespace RT

theorem allShort_true_iff {α : Type} (f : α → Res Bool) (l : List α) :
    allShort f l = .ok true ↔ ∀ x ∈ l, f x = .ok true := by
  induction l with
  | nil => exact ⟨fun _ _ h => (nomatch h), fun _ => rfl⟩
  | cons x xs ih =>
    exact Res.andThen_eq_true.trans
      ((and_congr_right fun _ => ih).trans (List.forall_mem_cons (p := fun y => f y = .ok true)).symm)

theorem allShort_false {α : Type} (f : α → Res Bool) (l : List α) :
    allShort f l = .ok false → ∃ x ∈ l, f x = .ok false := by
  induction l with
  | nil => exact nofun
  | cons x xs ih =>
    intro h
    rcases Res.andThen_eq_false.1 h with h | ⟨_, h⟩
    · exact ⟨x, List.mem_cons_self, h⟩
    · obtain ⟨y, hy, e⟩ := ih h
      exact ⟨y, List.mem_cons_of_mem _ hy, e⟩

theorem anyShort_false_iff {α : Type} (f : α → Res Bool) (l : List α) :
    anyShort f l = .ok false ↔ ∀ x ∈ l, f x = .ok false := by
  induction l with
  | nil => exact ⟨fun _ _ h => (nomatch h), fun _ => rfl⟩
  | cons x xs ih =>
    exact Res.orElse_eq_false.trans
      ((and_congr_right fun _ => ih).trans (List.forall_mem_cons (p := fun y => f y = .ok false)).symm)

theorem anyShort_true {α : Type} (f : α → Res Bool) (l : List α) :
    anyShort f l = .ok true → ∃ x ∈ l, f x = .ok true := by
  induction l with
  | nil => exact nofun
  | cons x xs ih =>
    intro h
    rcases Res.orElse_eq_true.1 h with h | ⟨_, h⟩
    · exact ⟨x, List.mem_cons_self, h⟩
    · obtain ⟨y, hy, e⟩ := ih h
      exact ⟨y, List.mem_cons_of_mem _ hy, e⟩

theorem allShort_throw {α : Type} (f : α → Res Bool) : ∀ (l : List α) (c : String),
    allShort f l = .throw c → ∃ x ∈ l, f x = .throw c
  | [], _, h => nomatch h
  | x :: xs, c, h => by
    rcases Res.andThen_eq_throw.1 h with h | ⟨_, h⟩
    · exact ⟨x, List.mem_cons_self, h⟩
    · obtain ⟨y, hy, e⟩ := allShort_throw f xs c h
      exact ⟨y, List.mem_cons_of_mem _ hy, e⟩

theorem anyShort_throw {α : Type} (f : α → Res Bool) : ∀ (l : List α) (c : String),
    anyShort f l = .throw c → ∃ x ∈ l, f x = .throw c
  | [], _, h => nomatch h
  | x :: xs, c, h => by
    rcases Res.orElse_eq_throw.1 h with h | ⟨_, h⟩
    · exact ⟨x, List.mem_cons_self, h⟩
    · obtain ⟨y, hy, e⟩ := anyShort_throw f xs c h
      exact ⟨y, List.mem_cons_of_mem _ hy, e⟩

/-- `b₁ ⟶ b₂` lifted to results: same outcome class, and `true` is preserved -/
def ResLe (r s : Res Bool) : Prop :=
  match r with
  | .ok b => ∃ b', s = .ok b' ∧ (b = true → b' = true)
  | .throw c => s = .throw c
  | .nofuel => s = .nofuel

theorem ResLe.refl (r : Res Bool) : ResLe r r := by
  cases r <;> simp [ResLe]

theorem allShort_le {α : Type} (f g : α → Res Bool) (l : List α)
    (h : ∀ x ∈ l, ResLe (f x) (g x)) (hf : ∀ x ∈ l, ∀ b, f x = .ok b → b = false → g x = .ok false ∨ g x = .ok true) :
    allShort f l = .ok true → allShort g l = .ok true := by
  have _ := hf  -- not needed
  intro hx
  rw [allShort_true_iff] at hx ⊢
  intro x hm
  have hle := h x hm
  rw [hx x hm] at hle
  obtain ⟨b', e, hb⟩ := hle
  rw [e, hb rfl]

theorem anyShort_le {α : Type} (f g : α → Res Bool) (l : List α)
    (h : ∀ x ∈ l, ResLe (f x) (g x)) :
    anyShort f l = .ok true → anyShort g l = .ok true := by
  induction l with
  | nil => exact nofun
  | cons x xs ih =>
    intro hx
    have hle := h x List.mem_cons_self
    refine Res.orElse_eq_true.2 ?_
    rcases Res.orElse_eq_true.1 hx with h1 | ⟨h1, h2⟩
    · rw [h1] at hle
      obtain ⟨b', e, hb⟩ := hle
      exact .inl (hb rfl ▸ e)
    · rw [h1] at hle
      obtain ⟨b', e, _⟩ := hle
      cases b' with
      | true => exact .inl e
      | false => exact .inr ⟨e, ih (fun y hy => h y (List.mem_cons_of_mem _ hy)) h2⟩

theorem _root_.BeffVerif.Res.Respects.allShort {R : Res Bool → Res Bool → Prop} (hR : Res.Respects R) {α : Type}
    {f g : α → Res Bool} :
    ∀ {l : List α}, (∀ x ∈ l, R (f x) (g x)) → R (allShort f l) (allShort g l)
  | [], _ => hR.ok true
  | x :: _, h => hR.andThen (h x List.mem_cons_self) (hR.allShort fun y hy => h y (List.mem_cons_of_mem _ hy))

theorem _root_.BeffVerif.Res.Respects.anyShort {R : Res Bool → Res Bool → Prop} (hR : Res.Respects R) {α : Type}
    {f g : α → Res Bool} :
    ∀ {l : List α}, (∀ x ∈ l, R (f x) (g x)) → R (anyShort f l) (anyShort g l)
  | [], _ => hR.ok false
  | x :: _, h => hR.orElse (h x List.mem_cons_self) (hR.anyShort fun y hy => h y (List.mem_cons_of_mem _ hy))

theorem allShort_congr {α : Type} {f g : α → Res Bool} : ∀ {l : List α}, (∀ x ∈ l, f x = g x) → allShort f l = allShort g l :=
  Res.respects_eq.allShort

theorem anyShort_congr {α : Type} {f g : α → Res Bool} : ∀ {l : List α}, (∀ x ∈ l, f x = g x) → anyShort f l = anyShort g l :=
  Res.respects_eq.anyShort

theorem anyShort_of_mem {α : Type} {f : α → Res Bool} :
    ∀ {l : List α}, (∀ x ∈ l, ∃ b, f x = .ok b) → (∃ x ∈ l, f x = .ok true) → anyShort f l = .ok true
  | y :: ys, hans, ⟨x, hx, e⟩ => by
    refine Res.orElse_eq_true.2 ?_
    obtain ⟨b, hb⟩ := hans y List.mem_cons_self
    cases b with
    | true => exact .inl hb
    | false =>
      refine .inr ⟨hb, anyShort_of_mem (fun z hz => hans z (List.mem_cons_of_mem _ hz)) ?_⟩
      rcases List.mem_cons.1 hx with rfl | hx
      · exact nomatch hb.symm.trans e
      · exact ⟨x, hx, e⟩

open JsVal

/-- `Child env rt t`: the code of `rt` hands over to `t` — a direct sub-term that `validate`, `report` or `parseAV`
recurse into, or the target of a reference -/
inductive Child (env : Env) : RT → RT → Prop
  | tuplePre {pre rest t} : t ∈ pre → Child env (.tuple pre rest) t
  | tupleRest {pre r} : Child env (.tuple pre (some r)) r
  | allOf {ts t} : t ∈ ts → Child env (.allOf ts) t
  | anyOf {ts t} : t ∈ ts → Child env (.anyOf ts) t
  | array {t} : Child env (.array t) t
  | mapKey {k v} : Child env (.map k v) k
  | mapVal {k v} : Child env (.map k v) v
  | set {t} : Child env (.set t) t
  | disc {ss key m sm p} : p ∈ m → Child env (.disc ss key m sm) p.2
  | optional {t} : Child env (.optional t) t
  | prop {props ix p} : p ∈ props → Child env (.object props ix) p.2
  | ixKey {props ix p} : p ∈ ix → Child env (.object props ix) p.1
  | ixVal {props ix p} : p ∈ ix → Child env (.object props ix) p.2
  | ref {name t} : env.lookup name = some t → Child env (.ref name) t
  | described {d t} : Child env (.described d t) t

theorem lookupMapping_mem {mapping : List (String × RT)} {d : JsVal} {v : RT} (h : lookupMapping mapping d = some v) :
    ∃ p ∈ mapping, p.2 = v := by
  unfold lookupMapping at h
  split at h
  · split at h
    · rename_i p hp
      injection h with h
      exact ⟨p, List.mem_of_find?_eq_some hp, h⟩
    · cases h
  · cases h

theorem lookup_mem {env : Env} {name : String} {t : RT} (h : env.lookup name = some t) : (name, t) ∈ env := by
  unfold Env.lookup at h
  split at h
  · rename_i p hp
    have hn := List.find?_some hp
    injection h with h
    rw [← h, ← eq_of_beq hn]
    exact List.mem_of_find?_eq_some hp
  · cases h

theorem lookupProp'_mem {props : List (String × RT)} {k : String} {t : RT} (h : parseAV.lookupProp' props k = some t) :
    (k, t) ∈ props := by
  unfold parseAV.lookupProp' at h
  split at h
  · rename_i p hp
    injection h with h
    have hk := List.find?_some hp
    rw [← h, ← eq_of_beq hk]
    exact List.mem_of_find?_eq_some hp
  · cases h

theorem rel_ite {α : Type} {R : α → α → Prop} {c : Prop} [Decidable c] {a a' b b' : α}
    (ht : c → R a a') (he : ¬c → R b b') : R (if c then a else b) (if c then a' else b') := by
  split
  · exact ht ‹_›
  · exact he ‹_›

def validateStep (env : Env) (strict : Bool) (vf : RT → JsVal → Res Bool) (rt : RT) (input : JsVal) : Res Bool :=
  match rt with
  | .tuple pre rest =>
    match input with
    | .arr items =>
      (allShort (fun (p : RT × Nat) => vf p.1 (items.getD p.2 .undef)) (pre.zip (List.range pre.length))).andThen
        (match rest with
          | some r => allShort (fun x => vf r x) (items.drop pre.length)
          | none => .ok (!(items.length > pre.length)))
    | _ => .ok false
  | .allOf ts => allShort (fun t => if input.typeOf == "object" then vf t input else .ok false) ts
  | .anyOf ts => anyShort (fun t => vf t input) ts
  | .array t =>
    match input with
    | .arr items => allShort (fun x => vf t x) items
    | _ => .ok false
  | .map kt vt =>
    match input with
    | .map es => allShort (fun (e : JsVal × JsVal) => (vf kt e.1).andThen (vf vt e.2)) es
    | _ => .ok false
  | .set t =>
    match input with
    | .set xs => allShort (fun x => vf t x) xs
    | _ => .ok false
  | .disc _ key mapping _ =>
    if !input.isObjectLike then .ok false else
    if (input.getProp key).isNullish then .ok false else
    match lookupMapping mapping (input.getProp key) with
    | none => .ok false
    | some v => vf v input
  | .optional t => if input.isNullish then .ok true else vf t input
  | .object props indexed =>
    if !(input.isObjectLike && !input.isArray) then .ok false else
    (allShort (fun (p : String × RT) => vf p.2 (input.getProp p.1)) props).andThen
      (let extraKeys := input.ownKeys.filter (fun k => !(props.map (·.1)).contains k)
       if indexed.length > 0 then
         allShort (fun k => anyShort (fun (p : RT × RT) => (vf p.1 (.str k)).andThen (vf p.2 (input.getProp k))) indexed) extraKeys
       else if strict then .ok (extraKeys.length == 0)
       else .ok true)
  | .ref name =>
    match env.lookup name with
    | some t => vf t input
    | none => .throw "TypeError"
  | .described _ t => vf t input
  -- the twelve leaf classes never call `vf`: any positive fuel gives their answer, and calling the model itself here (at fuel 1)
  -- is what lets `validate_succ` hold by `rfl` in every case
  | leaf => validate env strict 1 leaf input

theorem validate_succ (env : Env) (strict : Bool) (n : Nat) (rt : RT) (v : JsVal) :
    validate env strict (n+1) rt v = validateStep env strict (validate env strict n) rt v := by
  cases rt <;> rfl

section equations
variable (env : Env) (strict : Bool) (n : Nat) (v : JsVal)

theorem validate_zero (rt : RT) : validate env strict 0 rt v = .nofuel := rfl

theorem validate_optional (t : RT) :
    validate env strict (n+1) (.optional t) v = if v.isNullish then .ok true else validate env strict n t v := rfl

theorem validate_anyOf (ts : List RT) :
    validate env strict (n+1) (.anyOf ts) v = anyShort (fun t => validate env strict n t v) ts := rfl

theorem validate_array (t : RT) : validate env strict (n+1) (.array t) v =
    (match v with
      | .arr items => allShort (fun x => validate env strict n t x) items
      | _ => .ok false) := rfl

theorem validate_tuple (pre : List RT) (rest : Option RT) : validate env strict (n+1) (.tuple pre rest) v =
    (match v with
      | .arr items =>
        (allShort (fun (p : RT × Nat) => validate env strict n p.1 (items.getD p.2 .undef)) (pre.zip (List.range pre.length))).andThen
          (match rest with
            | some r => allShort (fun x => validate env strict n r x) (items.drop pre.length)
            | none => .ok (!(items.length > pre.length)))
      | _ => .ok false) := rfl

theorem validate_object (props : List (String × RT)) : validate env strict (n+1) (.object props []) v =
    if !(v.isObjectLike && !v.isArray) then .ok false else
      (allShort (fun (p : String × RT) => validate env strict n p.2 (v.getProp p.1)) props).andThen
        (if strict then .ok ((v.ownKeys.filter (fun k => !(props.map (·.1)).contains k)).length == 0) else .ok true) := rfl

theorem validate_ref (name : String) : validate env strict (n+1) (.ref name) v =
    (match env.lookup name with
      | some t => validate env strict n t v
      | none => .throw "TypeError") := rfl

theorem validate_ref_of_lookup {name : String} {t : RT} (h : env.lookup name = some t) :
    validate env strict (n+1) (.ref name) v = validate env strict n t v := by
  rw [validate_ref, h]
end equations

/-- The two sides may run in different modes: the flag is read only at an object type without index signature, where `hflag`
asks `R` of the two verdicts. An unresolved reference throws on both sides (`href`). -/
theorem validateStep_rel {R : Res Bool → Res Bool → Prop} (hR : Res.Respects R) (env : Env) {strict strict' : Bool}
    {vf vf' : RT → JsVal → Res Bool} (rt : RT) (v : JsVal)
    (hkids : ∀ t, Child env rt t → ∀ x, R (vf t x) (vf' t x))
    (href : ∀ name, rt = .ref name → env.lookup name = none → R (.throw "TypeError") (.throw "TypeError"))
    (hflag : ∀ props, rt = .object props [] → ∀ b, R (if strict then .ok b else .ok true) (if strict' then .ok b else .ok true)) :
    R (validateStep env strict vf rt v) (validateStep env strict' vf' rt v) := by
  cases rt with
  | tuple pre rest =>
    cases v with
    | arr items =>
      refine hR.andThen (hR.allShort fun p hp => hkids _ (.tuplePre (List.of_mem_zip hp).1) _) ?_
      cases rest with
      | none => exact hR.ok _
      | some r => exact hR.allShort fun x _ => hkids _ .tupleRest x
    | _ => exact hR.ok _
  | allOf ts =>
    refine hR.allShort fun t ht => ?_
    by_cases ho : (v.typeOf == "object") = true
    · simp only [ho, if_true]; exact hkids t (.allOf ht) v
    · simp only [ho]; exact hR.ok _
  | anyOf ts => exact hR.anyShort fun t ht => hkids t (.anyOf ht) v
  | array t =>
    cases v with
    | arr items => exact hR.allShort fun x _ => hkids t .array x
    | _ => exact hR.ok _
  | map kt vt =>
    cases v with
    | map es => exact hR.allShort fun e _ => hR.andThen (hkids kt .mapKey e.1) (hkids vt .mapVal e.2)
    | _ => exact hR.ok _
  | set t =>
    cases v with
    | set xs => exact hR.allShort fun x _ => hkids t .set x
    | _ => exact hR.ok _
  | disc ss key mapping sm =>
    refine rel_ite (fun _ => hR.ok _) fun _ => rel_ite (fun _ => hR.ok _) fun _ => ?_
    cases hm : lookupMapping mapping (v.getProp key) with
    | none => exact hR.ok _
    | some t =>
      obtain ⟨p, hp, e⟩ := lookupMapping_mem hm
      exact e ▸ hkids p.2 (.disc hp) v
  | optional t => exact rel_ite (fun _ => hR.ok _) fun _ => hkids t .optional v
  | object props indexed =>
    refine rel_ite (fun _ => hR.ok _) fun _ => hR.andThen (hR.allShort fun p hp => hkids _ (.prop hp) _) ?_
    cases indexed with
    | nil => exact hflag props rfl _
    | cons i is =>
      exact rel_ite (fun _ => hR.allShort fun k _ => hR.anyShort fun p hp =>
        hR.andThen (hkids _ (.ixKey hp) _) (hkids _ (.ixVal hp) _)) fun h => absurd (Nat.succ_pos _) h
  | ref name =>
    dsimp only [validateStep]
    cases hl : env.lookup name with
    | none => exact href name rfl hl
    | some t => exact hkids t (.ref hl) v
  | described d t => exact hkids t .described v
  | _ => exact hR.ok _

/-- strict acceptance is never contradicted by default-mode rejection (same fuel) -/
theorem validate_strict_mono (env : Env) : ∀ (n : Nat) (rt : RT) (v : JsVal),
    validate env true n rt v = .ok true → validate env false n rt v ≠ .ok false
  | 0, _, _ => nofun
  | n+1, rt, v => by
    rw [validate_succ, validate_succ]
    exact validateStep_rel Res.respects_notRejected env rt v (fun t _ x => validate_strict_mono env n t x)
      (fun _ _ _ => nofun) (fun _ _ _ _ => nofun)

theorem validate_fuel_mono (env : Env) (strict : Bool) : ∀ (n : Nat) (rt : RT) (v : JsVal),
    validate env strict n rt v ≠ .nofuel → ∀ m, n ≤ m → validate env strict m rt v = validate env strict n rt v
  | 0, _, _, h, _, _ => absurd rfl h
  | n+1, rt, v, h, m+1, hm => by
    rw [validate_succ] at h ⊢
    rw [validate_succ]
    exact validateStep_rel Res.respects_answered env rt v
      (fun t _ x hx => validate_fuel_mono env strict n t x hx m (Nat.le_of_succ_le_succ hm)) (fun _ _ _ _ => rfl) (fun _ _ _ _ => rfl) h

/-- sequencing on `Res`, for the nested `match … with | .ok e => … | .throw c => .throw c | .nofuel => .nofuel` of `report` -/
def seqErrs (r : Res (List DErr)) (f : List DErr → Res (List DErr)) : Res (List DErr) :=
  match r with
  | .ok e => f e
  | r => r

def reportStep (env : Env) (strict : Bool) (vf : RT → JsVal → Res Bool) (rf : RT → List String → JsVal → Res (List DErr))
    (rt : RT) (path : List String) (input : JsVal) : Res (List DErr) :=
  let item := reportItem vf rf path
  match rt with
  | .tuple pre rest =>
    match input with
    | .arr items =>
      seqErrs (concatRes (fun (p : RT × Nat) => item p.1 ("[" ++ natToCanon p.2 ++ "]") (items.getD p.2 .undef))
        (pre.zip (List.range pre.length))) fun e1 =>
      let restItems := (items.zip (List.range items.length)).drop pre.length
      match rest with
      | some r =>
        seqErrs (concatRes (fun (p : JsVal × Nat) => item r ("[" ++ natToCanon p.2 ++ "]") p.1) restItems) fun e2 => .ok (e1 ++ e2)
      | none =>
        .ok (e1 ++ restItems.flatMap (fun p =>
          buildError (path ++ ["[" ++ natToCanon p.2 ++ "]"]) "unexpected extra tuple item" p.1))
    | _ => .ok (buildError path "expected tuple" input)
  | .allOf ts => concatRes (fun t => rf t path input) ts
  | .anyOf ts =>
    match mapRes (fun t => rf t [] input) ts with
    | .ok branchErrors =>
      let depths := branchErrors.map (maxErrorDepth 100)
      let best := depths.foldl max 0
      let filtered :=
        if best > 0 then ((branchErrors.zip depths).filter (fun p => p.2 == best)).flatMap (·.1)
        else branchErrors.flatten
      .ok (buildUnionError path filtered input)
    | .throw c => .throw c
    | .nofuel => .nofuel
  | .array t =>
    match input with
    | .arr items =>
      concatRes (fun (p : JsVal × Nat) => item t ("[" ++ natToCanon p.2 ++ "]") p.1) (items.zip (List.range items.length))
    | _ => .ok (buildError path "expected array" input)
  | .map kt vt =>
    match input with
    | .map es =>
      concatRes (fun (e : JsVal × JsVal) =>
        let ks := (jsonStringify 100 e.1).getD "undefined"
        seqErrs (item kt ("key(" ++ ks ++ ")") e.1) fun a => seqErrs (item vt ("value(" ++ ks ++ ")") e.2) fun b => .ok (a ++ b)) es
    | _ => .ok (buildError path "expected Map" input)
  | .set t =>
    match input with
    | .set xs => concatRes (fun x => item t ("item(" ++ (jsonStringify 100 x).getD "undefined" ++ ")") x) xs
    | _ => .ok (buildError path "expected Set" input)
  | .disc _ key mapping _ =>
    if !input.isObjectLike then .ok (buildError path "expected object" input) else
    if (input.getProp key).isNullish then .ok (buildError path ("expected discriminator key " ++ jsonEscape key) input) else
    match lookupMapping mapping (input.getProp key) with
    | none => .ok (buildError (path ++ [key])
        ("expected one of " ++ ", ".intercalate (mapping.map (fun p => jsonEscape p.1))) (input.getProp key))
    | some v => rf v path input
  | .optional t => rf t path input
  | .object props indexed =>
    if !(input.isObjectLike && !input.isArray) then .ok (buildError path "expected object" input) else
    seqErrs (concatRes (fun (p : String × RT) => item p.2 p.1 (input.getProp p.1)) props) fun acc =>
      let extraKeys := input.ownKeys.filter (fun k => !(props.map (·.1)).contains k)
      if indexed.length > 0 then
        seqErrs (concatRes (fun k => concatRes (reportIndexed vf rf path input k) indexed) extraKeys) fun e2 => .ok (acc ++ e2)
      else if strict && extraKeys.length > 0 then
        .ok (extraKeys.flatMap (fun k => buildError (path ++ [k]) "extra property" (input.getProp k)))
      else .ok acc
  | .ref name =>
    match env.lookup name with
    | some t => rf t path input
    | none => .throw "TypeError"
  | .described _ t => rf t path input
  -- the twelve leaf classes report one error without calling `vf` or `rf` (fuel 1 as in `validateStep`)
  | leaf => report env strict 1 leaf path input

theorem report_succ (env : Env) (strict : Bool) (n : Nat) (rt : RT) (path : List String) (v : JsVal) :
    report env strict (n+1) rt path v = reportStep env strict (validate env strict n) (report env strict n) rt path v := by
  cases rt <;> rfl

theorem _root_.BeffVerif.Res.Holds.seqErrs {P Q : List DErr → Prop} {T : String → Prop} {r : Res (List DErr)}
    {f : List DErr → Res (List DErr)} (hr : r.Holds P T) (hf : ∀ e, P e → (f e).Holds Q T) : (seqErrs r f).Holds Q T := by
  cases r with
  | ok e => exact hf e hr
  | throw c => exact hr
  | nofuel => trivial

theorem holds_concatRes {α : Type} {P : DErr → Prop} {T : String → Prop} {f : α → Res (List DErr)} :
    ∀ {l : List α}, (∀ x ∈ l, (f x).Holds (fun es => ∀ e ∈ es, P e) T) →
      (concatRes f l).Holds (fun es => ∀ e ∈ es, P e) T
  | [], _ => fun _ h => nomatch h
  | x :: _, h =>
    (h x List.mem_cons_self).seqErrs fun _ he =>
      (holds_concatRes fun y hy => h y (List.mem_cons_of_mem _ hy)).seqErrs fun _ hes d hd =>
        (List.mem_append.1 hd).elim (he d) (hes d)

theorem holds_concatRes_ne {α : Type} {f : α → Res (List DErr)} {x : α} :
    ∀ {l : List α}, x ∈ l → (f x).Holds (· ≠ []) (fun _ => True) → (concatRes f l).Holds (· ≠ []) fun _ => True
  | y :: ys, hx, h => by
    rcases List.mem_cons.1 hx with e | hx
    · subst e
      exact h.seqErrs fun _ he => (Res.holds_trivial _).seqErrs fun es _ => List.append_ne_nil_of_left_ne_nil he es
    · exact (Res.holds_trivial _).seqErrs fun _ _ =>
        (holds_concatRes_ne hx h).seqErrs fun _ hes => List.append_ne_nil_of_right_ne_nil _ hes

theorem holds_mapRes {α β : Type} {P : β → Prop} {T : String → Prop} {f : α → Res β} {l : List α}
    (h : ∀ x ∈ l, (f x).Holds P T) : (mapRes f l).Holds (fun bs => ∀ b ∈ bs, P b) T := by
  induction l with
  | nil => exact fun _ hb => nomatch hb
  | cons x xs ih =>
    have hx := h x List.mem_cons_self
    have hxs := ih fun y hy => h y (List.mem_cons_of_mem _ hy)
    dsimp only [mapRes]
    generalize f x = r at hx
    generalize mapRes f xs = rs at hxs
    cases r with
    | ok b =>
      cases rs with
      | ok bs => exact fun b' hb' => (List.mem_cons.1 hb').elim (fun e => e ▸ hx) (hxs b')
      | throw c => exact hxs
      | nofuel => trivial
    | throw c => exact hx
    | nofuel => trivial

theorem mapM'_eq_mapRes {α β : Type} (f : α → Res β) : ∀ l, mapM' f l = mapRes f l
  | [] => rfl
  | x :: xs => by
    dsimp only [mapM', mapRes]
    rw [mapM'_eq_mapRes f xs]
    cases f x with
    | ok y => cases mapRes f xs <;> rfl
    | _ => rfl

theorem holds_mapM' {α β : Type} {P : β → Prop} {T : String → Prop} {f : α → Res β} {l : List α}
    (h : ∀ x ∈ l, (f x).Holds P T) : (mapM' f l).Holds (fun bs => ∀ b ∈ bs, P b) T :=
  mapM'_eq_mapRes f l ▸ holds_mapRes h

theorem mapM'_cons_ok {α β : Type} {f : α → Res β} {x : α} {xs : List α} {ys : List β} (h : mapM' f (x :: xs) = .ok ys) :
    ∃ y ys', f x = .ok y ∧ mapM' f xs = .ok ys' ∧ ys = y :: ys' := by
  dsimp only [mapM'] at h
  cases hx : f x with
  | ok y =>
    rw [hx] at h
    cases hxs : mapM' f xs with
    | ok ys' => rw [hxs] at h; cases h; exact ⟨y, ys', rfl, rfl, rfl⟩
    | throw c => rw [hxs] at h; cases h
    | nofuel => rw [hxs] at h; cases h
  | throw c => rw [hx] at h; cases h
  | nofuel => rw [hx] at h; cases h

theorem mapM'_cons_of {α β : Type} {f : α → Res β} {x : α} {xs : List α} {y : β} {ys : List β} (hx : f x = .ok y)
    (hxs : mapM' f xs = .ok ys) : mapM' f (x :: xs) = .ok (y :: ys) := by
  simp only [mapM', hx, hxs]

theorem mapM'_mem {α β : Type} {f : α → Res β} {xs : List α} {ys : List β} (hm : mapM' f xs = .ok ys) :
    ∀ y ∈ ys, ∃ x ∈ xs, f x = .ok y :=
  (holds_mapM' (P := fun y => ∃ x ∈ xs, f x = .ok y) fun x hx => Res.holds_of_ok fun _ e => ⟨x, hx, e⟩).of_ok hm

theorem mapM'_length {α β : Type} {f : α → Res β} {xs : List α} : ∀ {ys : List β}, mapM' f xs = .ok ys → ys.length = xs.length := by
  induction xs with
  | nil => intro _ hm; cases hm; rfl
  | cons x xs ih =>
    intro _ hm
    obtain ⟨y, ys', _, hxs, rfl⟩ := mapM'_cons_ok hm
    rw [List.length_cons, List.length_cons, ih hxs]

theorem mapM'_get {α β : Type} {f : α → Res β} {xs : List α} : ∀ {ys : List β}, mapM' f xs = .ok ys →
    ∀ i (h : i < xs.length), ∃ y, ys[i]? = some y ∧ f xs[i] = .ok y := by
  induction xs with
  | nil => intro _ _ i h; cases h
  | cons x xs ih =>
    intro _ hm i h
    obtain ⟨y, ys', hx, hxs, rfl⟩ := mapM'_cons_ok hm
    cases i with
    | zero => exact ⟨y, rfl, hx⟩
    | succ j => exact ih hxs j (Nat.lt_of_succ_lt_succ h)

theorem mapM'_of_get {α β : Type} {f : α → Res β} {xs : List α} : ∀ {ys : List β}, ys.length = xs.length →
    (∀ j (h : j < xs.length), ∃ y, ys[j]? = some y ∧ f xs[j] = .ok y) → mapM' f xs = .ok ys := by
  induction xs with
  | nil => intro ys hl _; cases List.eq_nil_of_length_eq_zero hl; rfl
  | cons x xs ih =>
    intro ys hl h
    cases ys with
    | nil => cases hl
    | cons y ys' =>
      obtain ⟨y0, h1, h2⟩ := h 0 (Nat.zero_lt_succ _)
      cases h1
      exact mapM'_cons_of h2 (ih (Nat.succ.inj hl) fun j hj => h (j + 1) (Nat.succ_lt_succ hj))

theorem holds_foldRes {α β : Type} {I : β → Prop} {T : String → Prop} {f : β → α → Res β} :
    ∀ {l : List α} {b : β}, I b → (∀ b x, x ∈ l → I b → (f b x).Holds I T) → (foldRes f b l).Holds I T
  | [], _, hb, _ => hb
  | x :: xs, b, hb, h => by
    have hx := h b x List.mem_cons_self hb
    dsimp only [foldRes]
    generalize f b x = r at hx
    cases r with
    | ok b' => exact holds_foldRes hx fun b y hy => h b y (List.mem_cons_of_mem _ hy)
    | throw c => exact hx
    | nofuel => trivial

theorem foldRes_cons_ok {α β : Type} {f : β → α → Res β} {b b'' : β} {x : α} {xs : List α} (h : foldRes f b (x :: xs) = .ok b'') :
    ∃ b', f b x = .ok b' ∧ foldRes f b' xs = .ok b'' := by
  dsimp only [foldRes] at h
  cases hs : f b x with
  | ok b' => rw [hs] at h; exact ⟨b', rfl, h⟩
  | throw c => rw [hs] at h; cases h
  | nofuel => rw [hs] at h; cases h

theorem holds_reportItem {Q : List DErr → Prop} {T : String → Prop} {vf : RT → JsVal → Res Bool}
    {rf : RT → List String → JsVal → Res (List DErr)} {path : List String} {t : RT} {seg : String} {x : JsVal}
    (hv : (vf t x).Holds (fun _ => True) T) (hnil : Q []) (hr : (rf t (path ++ [seg]) x).Holds Q T) :
    (reportItem vf rf path t seg x).Holds Q T := by
  unfold reportItem
  generalize vf t x = r at hv
  cases r with
  | ok b => cases b with
    | true => exact hnil
    | false => exact hr
  | throw c => exact hv
  | nofuel => trivial

theorem reportItem_of_false {vf : RT → JsVal → Res Bool} {rf : RT → List String → JsVal → Res (List DErr)}
    {path : List String} {t : RT} {seg : String} {x : JsVal} (h : vf t x = .ok false) :
    reportItem vf rf path t seg x = rf t (path ++ [seg]) x := by
  unfold reportItem; rw [h]

theorem holds_reportIndexed {P : DErr → Prop} {T : String → Prop} {vf : RT → JsVal → Res Bool}
    {rf : RT → List String → JsVal → Res (List DErr)} {path : List String} {input : JsVal} {k : String} {p : RT × RT}
    (hv1 : (vf p.1 (.str k)).Holds (fun _ => True) T) (hv2 : (vf p.2 (input.getProp k)).Holds (fun _ => True) T)
    (hr1 : (rf p.1 (path ++ [k]) (.str k)).Holds (fun es => ∀ e ∈ es, P e) T)
    (hr2 : (rf p.2 (path ++ [k]) (input.getProp k)).Holds (fun es => ∀ e ∈ es, P e) T) :
    (reportIndexed vf rf path input k p).Holds (fun es => ∀ e ∈ es, P e) T := by
  unfold reportIndexed
  generalize vf p.1 (.str k) = a at hv1
  generalize vf p.2 (input.getProp k) = b at hv2
  cases a with
  | ok keyOk =>
    cases b with
    | ok valueOk =>
      refine Res.Holds.ite (fun _ _ h => nomatch h) fun _ => ?_
      refine Res.Holds.seqErrs (Res.Holds.ite (fun _ => hr1) fun _ _ h => nomatch h) fun e1 h1 => ?_
      refine Res.Holds.seqErrs (Res.Holds.ite (fun _ => hr2) fun _ _ h => nomatch h) fun e2 h2 d hd => ?_
      exact (List.mem_append.1 hd).elim (h1 d) (h2 d)
    | throw c => exact hv2
    | nofuel => trivial
  | throw c => exact hv1
  | nofuel => trivial

theorem safeParse_eq_success {env : Env} {o : ParseOpts} {n : Nat} {rt : RT} {v d : JsVal} :
    safeParse env o n rt v = .ok (.success d) ↔ validate env o.strict n rt v = .ok true ∧ parseAV env o n rt v = .ok d := by
  unfold safeParse
  cases validate env o.strict n rt v with
  | ok b =>
    cases b with
    | true => cases parseAV env o n rt v <;> simp
    | false => cases report env o.strict n rt [] v <;> simp
  | _ => simp

theorem safeParse_eq_failure {env : Env} {o : ParseOpts} {n : Nat} {rt : RT} {v : JsVal} {es : List DErr} :
    safeParse env o n rt v = .ok (.failure es) ↔
      validate env o.strict n rt v = .ok false ∧ ∃ errs, report env o.strict n rt [] v = .ok errs ∧ errs.take 10 = es := by
  unfold safeParse
  cases validate env o.strict n rt v with
  | ok b =>
    cases b with
    | true => cases parseAV env o n rt v <;> simp
    | false => cases report env o.strict n rt [] v <;> simp
  | _ => simp

theorem safeParse_eq_throw {env : Env} {o : ParseOpts} {n : Nat} {rt : RT} {v : JsVal} {c : String} :
    safeParse env o n rt v = .throw c ↔ validate env o.strict n rt v = .throw c ∨
      validate env o.strict n rt v = .ok true ∧ parseAV env o n rt v = .throw c ∨
      validate env o.strict n rt v = .ok false ∧ report env o.strict n rt [] v = .throw c := by
  unfold safeParse
  cases validate env o.strict n rt v with
  | ok b =>
    cases b with
    | true => cases parseAV env o n rt v <;> simp
    | false => cases report env o.strict n rt [] v <;> simp
  | _ => simp

end RT
end BeffVerif
