import BeffVerif.Model.Bdd
/-!
Equations of the Boolean layer (C06) and what its operations denote. Property theorems live in `Props/C06.lean`.
-/
namespace BeffVerif

theorem bind_inv {α β : Type} {o : Option α} {f : α → Option β} {res : β} (h : (o >>= f) = some res) :
    ∃ x, o = some x ∧ f x = some res :=
  Option.bind_eq_some_iff.1 h

namespace Bdd

theorem Atom.cmp_self (a : Atom) : Atom.cmp a a = .eq := by
  have h := Nat.lt_irrefl
  rw [Atom.cmp, if_neg (h _), if_neg (h _), if_neg (h _), if_neg (h _)]

/-- The derived `Ord` on atoms: kind first, then index. The two strict alternatives are what `Props/C06Total.lean` names `lt a b` and `lt b a`. -/
theorem Atom.cmp_cases (a b : Atom) :
    (Atom.cmp a b = .lt ∧ (a.kind < b.kind ∨ (a.kind = b.kind ∧ a.idx < b.idx))) ∨ (Atom.cmp a b = .eq ∧ a = b) ∨
      (Atom.cmp a b = .gt ∧ (b.kind < a.kind ∨ (b.kind = a.kind ∧ b.idx < a.idx))) := by
  unfold Atom.cmp
  by_cases h1 : a.kind < b.kind; · rw [if_pos h1]; exact .inl ⟨rfl, .inl h1⟩
  by_cases h2 : b.kind < a.kind; · rw [if_neg h1, if_pos h2]; exact .inr (.inr ⟨rfl, .inl h2⟩)
  have hk := Nat.le_antisymm (Nat.le_of_not_lt h2) (Nat.le_of_not_lt h1)
  by_cases h3 : a.idx < b.idx; · rw [if_neg h1, if_neg h2, if_pos h3]; exact .inl ⟨rfl, .inr ⟨hk, h3⟩⟩
  by_cases h4 : b.idx < a.idx
  · rw [if_neg h1, if_neg h2, if_neg h3, if_pos h4]; exact .inr (.inr ⟨rfl, .inr ⟨hk.symm, h4⟩⟩)
  rw [if_neg h1, if_neg h2, if_neg h3, if_neg h4]
  cases a; cases b
  exact .inr (.inl ⟨rfl, congr (congrArg Atom.mk hk) (Nat.le_antisymm (Nat.le_of_not_lt h4) (Nat.le_of_not_lt h3))⟩)

theorem Atom.cmp_eq {a b : Atom} (h : Atom.cmp a b = .eq) : a = b := by
  rcases Atom.cmp_cases a b with ⟨e, _⟩ | ⟨_, e⟩ | ⟨e, _⟩
  · rw [e] at h; cases h
  · exact e
  · rw [e] at h; cases h

/-- the value of `node a l m r` under `ρ` from the values of its children (the last equation of `eval`) -/
def NodeSem (ρ : Atom → Bool) (a : Atom) (l m r : Bool) : Bool := (ρ a && l) || m || (!ρ a && r)

/-- The dispatch shared by `union`, `intersect` and `diff` (bdd.rs): equal operands, a leaf on either side, or two nodes
compared by their root atoms. On every leaf case the operation reduces by evaluation. -/
theorem pairCases {motive : Bdd → Bdd → Prop} (self : ∀ b, motive b b) (tt_ff : motive tt ff) (ff_tt : motive ff tt)
    (tt_node : ∀ a l m r, motive tt (node a l m r)) (ff_node : ∀ a l m r, motive ff (node a l m r))
    (node_tt : ∀ a l m r, motive (node a l m r) tt) (node_ff : ∀ a l m r, motive (node a l m r) ff)
    (lt : ∀ a1 l1 m1 r1 a2 l2 m2 r2, Atom.cmp a1 a2 = .lt → motive (node a1 l1 m1 r1) (node a2 l2 m2 r2))
    (eq : ∀ a l1 m1 r1 l2 m2 r2, node a l1 m1 r1 ≠ node a l2 m2 r2 → motive (node a l1 m1 r1) (node a l2 m2 r2))
    (gt : ∀ a1 l1 m1 r1 a2 l2 m2 r2, Atom.cmp a1 a2 = .gt → motive (node a1 l1 m1 r1) (node a2 l2 m2 r2)) :
    ∀ b1 b2, motive b1 b2
  | tt, tt => self _
  | ff, ff => self _
  | tt, ff => tt_ff
  | ff, tt => ff_tt
  | tt, node .. => tt_node ..
  | ff, node .. => ff_node ..
  | node .., tt => node_tt ..
  | node .., ff => node_ff ..
  | node a1 l1 m1 r1, node a2 l2 m2 r2 => by
    cases hc : Atom.cmp a1 a2
    · exact lt _ _ _ _ _ _ _ _ hc
    · cases Atom.cmp_eq hc
      by_cases h : node a1 l1 m1 r1 = node a1 l2 m2 r2
      · rw [h]; exact self _
      · exact eq _ _ _ _ _ _ _ h
    · exact gt _ _ _ _ _ _ _ _ hc

/-! The model spells "all of these returned, else `none`" as a `match` on a tuple of options; the equations below give each
arm as a `do` block in `Option` (the `?` of the Rust source), which is what the proofs invert (`bind_inv`) or run
(`C06T.Tot.bind` in `Props/C06Total.lean`). -/

theorem match1 (o : Option Bdd) {F G : Bdd → Option Bdd} (h : ∀ x, F x = G x) :
    (match o with | some x => F x | none => none) = o.bind G := by
  cases o
  · rfl
  · exact h _

theorem match2 (o1 o2 : Option Bdd) {F G : Bdd → Bdd → Option Bdd} (h : ∀ x y, F x y = G x y) :
    (match o1, o2 with | some x, some y => F x y | _, _ => none) = o1.bind fun x => o2.bind fun y => G x y := by
  cases o1 <;> cases o2 <;> try rfl
  exact h _ _

theorem match3 (o1 o2 o3 : Option Bdd) {F G : Bdd → Bdd → Bdd → Option Bdd} (h : ∀ x y z, F x y z = G x y z) :
    (match o1, o2, o3 with | some x, some y, some z => F x y z | _, _, _ => none) =
      o1.bind fun x => o2.bind fun y => o3.bind fun z => G x y z := by
  cases o1 <;> cases o2 <;> cases o3 <;> try rfl
  exact h _ _ _

theorem match4 (o1 o2 o3 o4 : Option Bdd) {F G : Bdd → Bdd → Bdd → Bdd → Option Bdd}
    (h : ∀ x y z w, F x y z w = G x y z w) :
    (match o1, o2, o3, o4 with | some x, some y, some z, some w => F x y z w | _, _, _, _ => none) =
      o1.bind fun x => o2.bind fun y => o3.bind fun z => o4.bind fun w => G x y z w := by
  cases o1 <;> cases o2 <;> cases o3 <;> cases o4 <;> try rfl
  exact h _ _ _ _

variable {a a1 a2 : Atom} {l m r l1 m1 r1 l2 m2 r2 : Bdd} (n : Nat)

theorem node_ne (h : Atom.cmp a1 a2 ≠ .eq) : node a1 l1 m1 r1 ≠ node a2 l2 m2 r2 :=
  fun e => h (by injection e with e; rw [e, Atom.cmp_self])

theorem union_self (b : Bdd) : union (n+1) b b = some b := if_pos rfl

theorem union_lt (hc : Atom.cmp a1 a2 = .lt) :
    union (n+1) (node a1 l1 m1 r1) (node a2 l2 m2 r2) = (do
      let m ← union n m1 (node a2 l2 m2 r2)
      fromNode n a1 l1 m r1) := by
  refine (if_neg (node_ne (by rw [hc]; nofun))).trans ?_
  dsimp only
  rw [hc]
  exact match1 _ fun _ => rfl

theorem union_eq (hne : node a l1 m1 r1 ≠ node a l2 m2 r2) :
    union (n+1) (node a l1 m1 r1) (node a l2 m2 r2) = (do
      let l ← union n l1 l2
      let m ← union n m1 m2
      let r ← union n r1 r2
      fromNode n a l m r) := by
  refine (if_neg hne).trans ?_
  dsimp only
  rw [Atom.cmp_self]
  exact match3 _ _ _ fun _ _ _ => rfl

theorem union_gt (hc : Atom.cmp a1 a2 = .gt) :
    union (n+1) (node a1 l1 m1 r1) (node a2 l2 m2 r2) = (do
      let m ← union n (node a1 l1 m1 r1) m2
      fromNode n a2 l2 m r2) := by
  refine (if_neg (node_ne (by rw [hc]; nofun))).trans ?_
  dsimp only
  rw [hc]
  exact match1 _ fun _ => rfl

theorem intersect_self (b : Bdd) : intersect (n+1) b b = some b := if_pos rfl

theorem intersect_lt (hc : Atom.cmp a1 a2 = .lt) :
    intersect (n+1) (node a1 l1 m1 r1) (node a2 l2 m2 r2) = (do
      let l ← intersect n l1 (node a2 l2 m2 r2)
      let m ← intersect n m1 (node a2 l2 m2 r2)
      let r ← intersect n r1 (node a2 l2 m2 r2)
      fromNode n a1 l m r) := by
  refine (if_neg (node_ne (by rw [hc]; nofun))).trans ?_
  dsimp only
  rw [hc]
  exact match3 _ _ _ fun _ _ _ => rfl

theorem intersect_eq (hne : node a l1 m1 r1 ≠ node a l2 m2 r2) :
    intersect (n+1) (node a l1 m1 r1) (node a l2 m2 r2) = (do
      let x1 ← union n l1 m1
      let x2 ← union n l2 m2
      let y1 ← union n r1 m1
      let y2 ← union n r2 m2
      let l ← intersect n x1 x2
      let r ← intersect n y1 y2
      fromNode n a l ff r) := by
  refine (if_neg hne).trans ?_
  dsimp only
  rw [Atom.cmp_self]
  exact match4 _ _ _ _ fun _ _ _ _ => match2 _ _ fun _ _ => rfl

theorem intersect_gt (hc : Atom.cmp a1 a2 = .gt) :
    intersect (n+1) (node a1 l1 m1 r1) (node a2 l2 m2 r2) = (do
      let l ← intersect n (node a1 l1 m1 r1) l2
      let m ← intersect n (node a1 l1 m1 r1) m2
      let r ← intersect n (node a1 l1 m1 r1) r2
      fromNode n a2 l m r) := by
  refine (if_neg (node_ne (by rw [hc]; nofun))).trans ?_
  dsimp only
  rw [hc]
  exact match3 _ _ _ fun _ _ _ => rfl

theorem complement_right_ff :
    complement (n+1) (node a l m ff) = (do
      let lm ← union n l m
      let x ← complement n lm
      let y ← complement n m
      fromNode n a ff x y) :=
  match1 _ fun _ => match2 _ _ fun _ _ => rfl

theorem complement_left_ff (hr : r ≠ ff) :
    complement (n+1) (node a ff m r) = (do
      let rm ← union n r m
      let x ← complement n m
      let y ← complement n rm
      fromNode n a x y ff) :=
  (if_neg hr).trans <| (if_pos rfl).trans (match1 _ fun _ => match2 _ _ fun _ _ => rfl)

theorem complement_mid_ff (hr : r ≠ ff) (hl : l ≠ ff) :
    complement (n+1) (node a l ff r) = (do
      let lr ← union n l r
      let x ← complement n l
      let y ← complement n lr
      let z ← complement n r
      fromNode n a x y z) :=
  (if_neg hr).trans <| (if_neg hl).trans <| (if_pos rfl).trans (match1 _ fun _ => match3 _ _ _ fun _ _ _ => rfl)

theorem complement_node (hr : r ≠ ff) (hl : l ≠ ff) (hm : m ≠ ff) :
    complement (n+1) (node a l m r) = (do
      let lm ← union n l m
      let rm ← union n r m
      let x ← complement n lm
      let y ← complement n rm
      fromNode n a x ff y) :=
  (if_neg hr).trans <| (if_neg hl).trans <| (if_neg hm).trans (match2 _ _ fun _ _ => match2 _ _ fun _ _ => rfl)

theorem diff_self (b : Bdd) : diff (n+1) b b = some ff := if_pos rfl

theorem diff_lt (hc : Atom.cmp a1 a2 = .lt) :
    diff (n+1) (node a1 l1 m1 r1) (node a2 l2 m2 r2) = (do
      let x ← union n l1 m1
      let y ← union n r1 m1
      let l ← diff n x (node a2 l2 m2 r2)
      let r ← diff n y (node a2 l2 m2 r2)
      fromNode n a1 l ff r) := by
  refine (if_neg (node_ne (by rw [hc]; nofun))).trans ?_
  dsimp only
  rw [hc]
  exact match2 _ _ fun _ _ => match2 _ _ fun _ _ => rfl

theorem diff_eq (hne : node a l1 m1 r1 ≠ node a l2 m2 r2) :
    diff (n+1) (node a l1 m1 r1) (node a l2 m2 r2) = (do
      let x1 ← union n l1 m1
      let x2 ← union n l2 m2
      let y1 ← union n r1 m1
      let y2 ← union n r2 m2
      let l ← diff n x1 x2
      let r ← diff n y1 y2
      fromNode n a l ff r) := by
  refine (if_neg hne).trans ?_
  dsimp only
  rw [Atom.cmp_self]
  exact match4 _ _ _ _ fun _ _ _ _ => match2 _ _ fun _ _ => rfl

theorem diff_gt (hc : Atom.cmp a1 a2 = .gt) :
    diff (n+1) (node a1 l1 m1 r1) (node a2 l2 m2 r2) = (do
      let x ← union n l2 m2
      let y ← union n r2 m2
      let l ← diff n (node a1 l1 m1 r1) x
      let r ← diff n (node a1 l1 m1 r1) y
      fromNode n a2 l ff r) := by
  refine (if_neg (node_ne (by rw [hc]; nofun))).trans ?_
  dsimp only
  rw [hc]
  exact match2 _ _ fun _ _ => match2 _ _ fun _ _ => rfl

/-- Shannon expansion of a three-way node: where `a` holds it reads `l ∨ m`, elsewhere `r ∨ m`. Every arm of the four
operations is this expansion applied to both operands, which is why the `=` arms of `intersect` and `diff` start from the
unions `l ∪ m` and `r ∪ m`. -/
theorem eval_node (ρ : Atom → Bool) (a : Atom) (l m r : Bdd) :
    eval ρ (node a l m r) = bif ρ a then eval ρ l || eval ρ m else eval ρ r || eval ρ m := by
  rw [eval]; cases ρ a <;> simp [Bool.or_comm]

theorem eval_fromAtom (ρ : Atom → Bool) (a : Atom) : eval ρ (fromAtom a) = ρ a := by
  simp [fromAtom, eval]

variable (ρ : Atom → Bool)

theorem fromNodeWith_sound {u : Bdd → Bdd → Option Bdd} (hu : ∀ {x y r}, u x y = some r → eval ρ r = (eval ρ x || eval ρ y))
    {res : Bdd} (h : fromNodeWith u a l m r = some res) : eval ρ res = eval ρ (node a l m r) := by
  rw [eval_node]
  unfold fromNodeWith at h
  by_cases hm : m = tt
  · rw [if_pos hm] at h; cases h; rw [hm]; cases ρ a <;> exact (Bool.or_true _).symm
  by_cases hlr : l = r
  · rw [if_neg hm, if_pos hlr] at h; rw [hu h, hlr, Bool.cond_self]
  · rw [if_neg hm, if_neg hlr] at h; cases h; exact eval_node ..

private theorem or_or_or_comm : ∀ a b c d : Bool, ((a || b) || (c || d)) = ((a || c) || (b || d)) := by decide

theorem union_sound : ∀ {n : Nat} {b1 b2 r : Bdd}, union n b1 b2 = some r →
    eval ρ r = (eval ρ b1 || eval ρ b2) := by
  intro n
  induction n with
  | zero => nofun
  | succ n ih =>
    intro b1 b2 res h
    induction b1, b2 using pairCases with
    | self b => rw [union_self] at h; cases h; exact (Bool.or_self _).symm
    | lt a1 l1 m1 r1 a2 l2 m2 r2 hc =>
      rw [union_lt n hc] at h
      obtain ⟨m, hm, h⟩ := bind_inv h
      rw [fromNodeWith_sound ρ ih h, eval_node, eval_node, ih hm]
      cases ρ a1 <;> simp only [cond_true, cond_false, Bool.or_assoc]
    | eq a l1 m1 r1 l2 m2 r2 hne =>
      rw [union_eq n hne] at h
      obtain ⟨l, hl, h⟩ := bind_inv h
      obtain ⟨m, hm, h⟩ := bind_inv h
      obtain ⟨r, hr, h⟩ := bind_inv h
      rw [fromNodeWith_sound ρ ih h, eval_node, eval_node, eval_node, ih hl, ih hm, ih hr]
      cases ρ a <;> exact or_or_or_comm ..
    | gt a1 l1 m1 r1 a2 l2 m2 r2 hc =>
      rw [union_gt n hc] at h
      obtain ⟨m, hm, h⟩ := bind_inv h
      rw [fromNodeWith_sound ρ ih h, eval_node ρ a2, eval_node ρ a2, ih hm]
      cases ρ a2 <;> simp only [cond_true, cond_false, Bool.or_left_comm]
    -- a leaf on either side: the operation returns an operand or a constant
    | _ => cases h; simp [eval]

theorem fromNode_sound {res : Bdd} (h : fromNode n a l m r = some res) : eval ρ res = eval ρ (node a l m r) :=
  fromNodeWith_sound ρ (union_sound ρ) h

theorem intersect_sound : ∀ {n : Nat} {b1 b2 r : Bdd}, intersect n b1 b2 = some r →
    eval ρ r = (eval ρ b1 && eval ρ b2) := by
  intro n
  induction n with
  | zero => nofun
  | succ n ih =>
    intro b1 b2 res h
    induction b1, b2 using pairCases with
    | self b => rw [intersect_self] at h; cases h; exact (Bool.and_self _).symm
    | lt a1 l1 m1 r1 a2 l2 m2 r2 hc =>
      rw [intersect_lt n hc] at h
      obtain ⟨l, hl, h⟩ := bind_inv h
      obtain ⟨m, hm, h⟩ := bind_inv h
      obtain ⟨r, hr, h⟩ := bind_inv h
      rw [fromNode_sound n ρ h, eval_node, eval_node, ih hl, ih hm, ih hr]
      cases ρ a1 <;> simp only [cond_true, cond_false, Bool.and_or_distrib_right]
    | eq a l1 m1 r1 l2 m2 r2 hne =>
      rw [intersect_eq n hne] at h
      obtain ⟨x1, hx1, h⟩ := bind_inv h
      obtain ⟨x2, hx2, h⟩ := bind_inv h
      obtain ⟨y1, hy1, h⟩ := bind_inv h
      obtain ⟨y2, hy2, h⟩ := bind_inv h
      obtain ⟨l, hl, h⟩ := bind_inv h
      obtain ⟨r, hr, h⟩ := bind_inv h
      rw [fromNode_sound n ρ h, eval_node, eval_node, eval_node, ih hl, ih hr,
        union_sound ρ hx1, union_sound ρ hx2, union_sound ρ hy1, union_sound ρ hy2]
      cases ρ a <;> exact Bool.or_false _
    | gt a1 l1 m1 r1 a2 l2 m2 r2 hc =>
      rw [intersect_gt n hc] at h
      obtain ⟨l, hl, h⟩ := bind_inv h
      obtain ⟨m, hm, h⟩ := bind_inv h
      obtain ⟨r, hr, h⟩ := bind_inv h
      rw [fromNode_sound n ρ h, eval_node ρ a2, eval_node ρ a2, ih hl, ih hm, ih hr]
      cases ρ a2 <;> simp only [cond_true, cond_false, Bool.and_or_distrib_left]
    | _ => cases h; simp [eval]

theorem complement_sound : ∀ {n : Nat} {b r : Bdd}, complement n b = some r →
    eval ρ r = !eval ρ b := by
  intro n
  induction n with
  | zero => nofun
  | succ n ih =>
    intro b res h
    cases b with
    | tt => cases h; rfl
    | ff => cases h; rfl
    | node a l m r =>
      by_cases hr : r = ff
      · subst hr
        rw [complement_right_ff] at h
        obtain ⟨lm, hlm, h⟩ := bind_inv h
        obtain ⟨x, hx, h⟩ := bind_inv h
        obtain ⟨y, hy, h⟩ := bind_inv h
        rw [fromNode_sound n ρ h, eval_node, eval_node, ih hx, ih hy, union_sound ρ hlm]
        cases ρ a <;> cases eval ρ l <;> cases eval ρ m <;> rfl
      by_cases hl : l = ff
      · subst hl
        rw [complement_left_ff n hr] at h
        obtain ⟨rm, hrm, h⟩ := bind_inv h
        obtain ⟨x, hx, h⟩ := bind_inv h
        obtain ⟨y, hy, h⟩ := bind_inv h
        rw [fromNode_sound n ρ h, eval_node, eval_node, ih hx, ih hy, union_sound ρ hrm]
        cases ρ a <;> cases eval ρ r <;> cases eval ρ m <;> rfl
      by_cases hm : m = ff
      · subst hm
        rw [complement_mid_ff n hr hl] at h
        obtain ⟨lr, hlr, h⟩ := bind_inv h
        obtain ⟨x, hx, h⟩ := bind_inv h
        obtain ⟨y, hy, h⟩ := bind_inv h
        obtain ⟨z, hz, h⟩ := bind_inv h
        rw [fromNode_sound n ρ h, eval_node, eval_node, ih hx, ih hy, ih hz, union_sound ρ hlr]
        cases ρ a <;> cases eval ρ l <;> cases eval ρ r <;> rfl
      · rw [complement_node n hr hl hm] at h
        obtain ⟨lm, hlm, h⟩ := bind_inv h
        obtain ⟨rm, hrm, h⟩ := bind_inv h
        obtain ⟨x, hx, h⟩ := bind_inv h
        obtain ⟨y, hy, h⟩ := bind_inv h
        rw [fromNode_sound n ρ h, eval_node, eval_node, ih hx, ih hy, union_sound ρ hlm,
          union_sound ρ hrm]
        cases ρ a <;> exact Bool.or_false _

theorem diff_sound : ∀ {n : Nat} {b1 b2 r : Bdd}, diff n b1 b2 = some r →
    eval ρ r = (eval ρ b1 && !eval ρ b2) := by
  intro n
  induction n with
  | zero => nofun
  | succ n ih =>
    intro b1 b2 res h
    induction b1, b2 using pairCases with
    | self b => rw [diff_self] at h; cases h; exact (Bool.and_not_self _).symm
    | tt_node => exact complement_sound ρ h
    | lt a1 l1 m1 r1 a2 l2 m2 r2 hc =>
      rw [diff_lt n hc] at h
      obtain ⟨x, hx, h⟩ := bind_inv h
      obtain ⟨y, hy, h⟩ := bind_inv h
      obtain ⟨l, hl, h⟩ := bind_inv h
      obtain ⟨r, hr, h⟩ := bind_inv h
      rw [fromNode_sound n ρ h, eval_node, eval_node, ih hl, ih hr, union_sound ρ hx,
        union_sound ρ hy]
      cases ρ a1 <;> exact Bool.or_false _
    | eq a l1 m1 r1 l2 m2 r2 hne =>
      rw [diff_eq n hne] at h
      obtain ⟨x1, hx1, h⟩ := bind_inv h
      obtain ⟨x2, hx2, h⟩ := bind_inv h
      obtain ⟨y1, hy1, h⟩ := bind_inv h
      obtain ⟨y2, hy2, h⟩ := bind_inv h
      obtain ⟨l, hl, h⟩ := bind_inv h
      obtain ⟨r, hr, h⟩ := bind_inv h
      rw [fromNode_sound n ρ h, eval_node, eval_node, eval_node, ih hl, ih hr,
        union_sound ρ hx1, union_sound ρ hx2, union_sound ρ hy1, union_sound ρ hy2]
      cases ρ a <;> exact Bool.or_false _
    | gt a1 l1 m1 r1 a2 l2 m2 r2 hc =>
      rw [diff_gt n hc] at h
      obtain ⟨x, hx, h⟩ := bind_inv h
      obtain ⟨y, hy, h⟩ := bind_inv h
      obtain ⟨l, hl, h⟩ := bind_inv h
      obtain ⟨r, hr, h⟩ := bind_inv h
      rw [fromNode_sound n ρ h, eval_node ρ a2, eval_node ρ a2, ih hl, ih hr, union_sound ρ hx,
        union_sound ρ hy]
      cases ρ a2 <;> exact Bool.or_false _
    | _ => cases h; simp [eval]

end Bdd
end BeffVerif
