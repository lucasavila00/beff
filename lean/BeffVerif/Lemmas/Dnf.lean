import BeffVerif.Lemmas.Bdd
/-!
The two conversions between diagrams and clause lists (C06): what `ofBddAcc` and `toBddAcc` denote. Inside `namespace Dnf` a
bare `eval` is `Dnf.eval`; the diagram's is written `Bdd.eval`.
-/
namespace BeffVerif
namespace Dnf
open Bdd

theorem eval_append (ρ : Atom → Bool) (d1 d2 : Dnf) : eval ρ (d1 ++ d2) = (eval ρ d1 || eval ρ d2) := by
  simp [eval, List.any_append]

/-- truth table of one step of `bdd_to_dnf_recursive`: the middle, left and right branches under the constraints `P`, `N`
collected so far, the atom `p` joining `P` on the left and `N` on the right -/
private theorem ofBddAcc_step : ∀ P N p L M R : Bool,
    ((P && N && M) || (((P && (p && true)) && N && L) || (P && (N && (!p && true)) && R))) =
      (P && N && ((p && L) || (M || (!p && R)))) := by decide

theorem eval_ofBddAcc (ρ : Atom → Bool) : ∀ (b : Bdd) (pos neg : List Atom) (acc : Dnf),
    eval ρ (ofBddAcc b pos neg acc) =
      (eval ρ acc || (pos.all ρ && neg.all (fun a => !ρ a) && Bdd.eval ρ b)) := by
  intro b
  induction b with
  | tt => intro pos neg acc; simp [ofBddAcc, eval, Conj.eval, Bdd.eval]
  | ff => intro pos neg acc; simp [ofBddAcc, Bdd.eval]
  | node a l m r ihl ihm ihr =>
    intro pos neg acc
    simp only [ofBddAcc, ihl, ihm, ihr, Bdd.eval, List.all_append, List.all_cons, List.all_nil, Bool.or_assoc]
    exact congrArg _ (ofBddAcc_step ..)

theorem conjPos_cons (n : Nat) (a : Atom) (as : List Atom) (b : Bdd) :
    conjPos n (a :: as) b = (Bdd.intersect n b (Bdd.fromAtom a)).bind (conjPos n as) :=
  match1 _ fun _ => rfl

theorem conjNeg_cons (n : Nat) (a : Atom) (as : List Atom) (b : Bdd) :
    conjNeg n (a :: as) b =
      (Bdd.complement n (Bdd.fromAtom a)).bind fun na => (Bdd.intersect n b na).bind (conjNeg n as) :=
  match1 _ fun _ => match1 _ fun _ => rfl

theorem toBddAcc_cons (n : Nat) (c : Conj) (cs : Dnf) (b : Bdd) :
    toBddAcc n (c :: cs) b =
      (conjPos n c.pos .tt).bind fun p => (conjNeg n c.neg p).bind fun cb => (Bdd.union n b cb).bind (toBddAcc n cs) :=
  match1 _ fun _ => match1 _ fun _ => match1 _ fun _ => rfl

theorem conjPos_sound (n : Nat) (ρ : Atom → Bool) : ∀ (as : List Atom) (b r : Bdd),
    conjPos n as b = some r → Bdd.eval ρ r = (Bdd.eval ρ b && as.all ρ)
  | [], b, r, h => by cases h; exact (Bool.and_true _).symm
  | a :: as, b, r, h => by
    obtain ⟨x, hx, h⟩ := Option.bind_eq_some_iff.1 (conjPos_cons .. ▸ h)
    rw [conjPos_sound n ρ as x r h, intersect_sound ρ hx, eval_fromAtom, List.all_cons, Bool.and_assoc]

theorem conjNeg_sound (n : Nat) (ρ : Atom → Bool) : ∀ (as : List Atom) (b r : Bdd),
    conjNeg n as b = some r → Bdd.eval ρ r = (Bdd.eval ρ b && as.all (fun a => !ρ a))
  | [], b, r, h => by cases h; exact (Bool.and_true _).symm
  | a :: as, b, r, h => by
    obtain ⟨na, hna, h⟩ := Option.bind_eq_some_iff.1 (conjNeg_cons .. ▸ h)
    obtain ⟨x, hx, h⟩ := Option.bind_eq_some_iff.1 h
    rw [conjNeg_sound n ρ as x r h, intersect_sound ρ hx, complement_sound ρ hna, eval_fromAtom,
      List.all_cons, Bool.and_assoc]

theorem toBddAcc_sound (n : Nat) (ρ : Atom → Bool) : ∀ (d : Dnf) (b r : Bdd),
    toBddAcc n d b = some r → Bdd.eval ρ r = (Bdd.eval ρ b || eval ρ d)
  | [], b, r, h => by cases h; exact (Bool.or_false _).symm
  | c :: cs, b, r, h => by
    obtain ⟨p, hp, h⟩ := Option.bind_eq_some_iff.1 (toBddAcc_cons .. ▸ h)
    obtain ⟨cb, hcb, h⟩ := Option.bind_eq_some_iff.1 h
    obtain ⟨x, hx, h⟩ := Option.bind_eq_some_iff.1 h
    rw [toBddAcc_sound n ρ cs x r h, union_sound ρ hx, conjNeg_sound n ρ _ _ _ hcb, conjPos_sound n ρ _ _ _ hp,
      Bool.or_assoc]
    simp [eval, Conj.eval, Bdd.eval]

end Dnf
end BeffVerif
