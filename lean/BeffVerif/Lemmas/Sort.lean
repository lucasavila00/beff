import BeffVerif.Model.JsVal
/-!
Lemmas on the model's insertion sort `JsVal.sortBy`, shared by C10 (emission order), C13 (canonical order of properties /
constants), C03, C05 and C07 (sorted keys): `sortBy` only reorders, its result is sorted for a total preorder, and a
sorted list is determined by its elements when the order is antisymmetric on them. The namespace is `BeffVerif.C10`,
whose property (`emit_order_independent`) is the last statement of the file.
-/
namespace BeffVerif.C10
open BeffVerif JsVal

section sorting
variable {α : Type} (le : α → α → Bool)

theorem insertBy_perm (x : α) (l : List α) : (insertBy le x l).Perm (x :: l) := by
  induction l with
  | nil => exact .refl _
  | cons y ys ih =>
    rw [insertBy]
    split
    · exact .refl _
    · exact (ih.cons y).trans (.swap x y ys)

theorem sortBy_perm (l : List α) : (sortBy le l).Perm l := by
  induction l with
  | nil => exact .refl _
  | cons x xs ih => exact (insertBy_perm le x _).trans (ih.cons x)

def Sorted (l : List α) : Prop := l.Pairwise (fun a b => le a b = true)

theorem insertBy_sorted (htot : ∀ a b, le a b = true ∨ le b a = true)
    (htrans : ∀ a b c, le a b = true → le b c = true → le a c = true)
    (x : α) (l : List α) (h : Sorted le l) : Sorted le (insertBy le x l) := by
  induction l with
  | nil => exact List.pairwise_singleton _ _
  | cons y ys ih =>
    unfold Sorted at h ih ⊢
    rw [insertBy]
    split
    · -- `x` in front: below `y`, hence below what follows `y`
      rename_i hxy
      refine List.pairwise_cons.2 ⟨fun b hb => ?_, h⟩
      rcases List.mem_cons.1 hb with e | hb
      · exact e ▸ hxy
      · exact htrans _ _ _ hxy ((List.pairwise_cons.1 h).1 b hb)
    · -- `y` in front: below `x` by totality
      rename_i hxy
      rw [List.pairwise_cons] at h
      refine List.pairwise_cons.2 ⟨fun b hb => ?_, ih h.2⟩
      rcases List.mem_cons.1 ((insertBy_perm le x ys).mem_iff.1 hb) with e | hb
      · exact e ▸ (htot x y).resolve_left hxy
      · exact h.1 b hb

theorem sortBy_sorted (htot : ∀ a b, le a b = true ∨ le b a = true)
    (htrans : ∀ a b c, le a b = true → le b c = true → le a c = true) (l : List α) : Sorted le (sortBy le l) := by
  induction l with
  | nil => exact List.Pairwise.nil
  | cons x xs ih => exact insertBy_sorted le htot htrans x _ ih

theorem sorted_perm_eq_of_mem (l1 l2 : List α) (hanti : ∀ a ∈ l1, ∀ b ∈ l1, le a b = true → le b a = true → a = b)
    (hp : l1.Perm l2) (h1 : Sorted le l1) (h2 : Sorted le l2) : l1 = l2 := by
  induction l1 generalizing l2 with
  | nil => exact hp.nil_eq
  | cons x xs ih =>
    cases l2 with
    | nil => cases hp.length_eq
    | cons y ys =>
      unfold Sorted at h1 h2
      rw [List.pairwise_cons] at h1 h2
      -- the two heads are below each other, because each occurs in the other list
      have hxy : x = y := by
        rcases List.mem_cons.1 (hp.mem_iff.1 List.mem_cons_self) with e | hx
        · exact e
        rcases List.mem_cons.1 (hp.mem_iff.2 List.mem_cons_self) with e | hy
        · exact e.symm
        · exact hanti x List.mem_cons_self y (List.mem_cons_of_mem _ hy) (h1.1 y hy) (h2.1 x hx)
      subst hxy
      rw [ih ys (fun a ha b hb => hanti a (List.mem_cons_of_mem _ ha) b (List.mem_cons_of_mem _ hb)) hp.cons_inv h1.2 h2.2]

/-- a sorted list is determined by its elements when the order is antisymmetric on them (distinct keys) -/
theorem sorted_perm_eq (hanti : ∀ a b, le a b = true → le b a = true → a = b) :
    ∀ (l1 l2 : List α), l1.Perm l2 → Sorted le l1 → Sorted le l2 → l1 = l2 :=
  fun l1 l2 => sorted_perm_eq_of_mem le l1 l2 fun a _ b _ => hanti a b

/-- Emission order is independent of registration order: sorting any permutation of the registered items (file
registration order, hash-iteration order, import order) yields the same sequence. -/
theorem emit_order_independent (htot : ∀ a b, le a b = true ∨ le b a = true)
    (htrans : ∀ a b c, le a b = true → le b c = true → le a c = true)
    (hanti : ∀ a b, le a b = true → le b a = true → a = b)
    (l1 l2 : List α) (h : l1.Perm l2) : sortBy le l1 = sortBy le l2 :=
  sorted_perm_eq le hanti _ _ (((sortBy_perm le l1).trans h).trans (sortBy_perm le l2).symm)
    (sortBy_sorted le htot htrans l1) (sortBy_sorted le htot htrans l2)

end sorting

end BeffVerif.C10
