import BeffVerif.Model.Sha256
/-! Buffering / padding lemmas for the Hash256Writer (C13), parametric in the compression function `cmp` (the first explicit
argument of whatever mentions it: `Writer.Inv cmp iv w msg`); and `compress` written as
folds over lists (`compress_eq`), the form in which the kernel evaluates the test vectors. -/
namespace BeffVerif.Sha

variable (cmp : State → Bytes → State)

theorem absorb_short (s : State) (m : Bytes) (h : m.length < 64) : absorb cmp s m = (s, m) := by
  rw [absorb, dif_neg (Nat.not_le_of_lt h)]

theorem absorb_long (s : State) (m : Bytes) (h : 64 ≤ m.length) :
    absorb cmp s m = absorb cmp (cmp s (m.take 64)) (m.drop 64) := by
  rw [absorb, dif_pos h]

theorem absorb_block (s : State) (blk rest : Bytes) (h : blk.length = 64) :
    absorb cmp s (blk ++ rest) = absorb cmp (cmp s blk) rest := by
  rw [absorb_long cmp s (blk ++ rest) (by rw [List.length_append, h]; exact Nat.le_add_right _ _),
    List.take_left' h, List.drop_left' h]

theorem absorb_tail_len (s : State) (m : Bytes) : (absorb cmp s m).2.length = m.length % 64 := by
  induction s, m using absorb.induct cmp with
  | case1 s m h ih => rw [absorb_long cmp s m h, ih, List.length_drop, ← Nat.mod_eq_sub_mod h]
  | case2 s m h => rw [absorb_short cmp s m (Nat.lt_of_not_le h), Nat.mod_eq_of_lt (Nat.lt_of_not_le h)]

theorem absorb_tail_lt (s : State) (m : Bytes) : (absorb cmp s m).2.length < 64 := by
  rw [absorb_tail_len]; exact Nat.mod_lt _ (by decide)

theorem absorb_append (s : State) (m1 m2 : Bytes) :
    absorb cmp s (m1 ++ m2) = absorb cmp (absorb cmp s m1).1 ((absorb cmp s m1).2 ++ m2) := by
  induction s, m1 using absorb.induct cmp with
  | case1 s m h ih =>
    rw [absorb_long cmp s m h, ← ih, ← absorb_block cmp s _ _ (List.length_take_of_le h), ← List.append_assoc,
      List.take_append_drop]
  | case2 s m h => rw [absorb_short cmp s m (Nat.lt_of_not_le h)]

theorem updLoop_eq_absorb (h : State) (buf data : Bytes) (hb : buf.length < 64) :
    updLoop cmp h buf data = absorb cmp h (buf ++ data) := by
  induction h, buf, data using updLoop.induct cmp with
  | case1 h buf => rw [updLoop, dif_pos rfl, List.append_nil, absorb_short cmp h buf hb]
  | case2 h buf data hd hb' space buf' hfull ih =>
    rw [updLoop, dif_neg hd, dif_pos hb', if_pos hfull, ih (Nat.zero_lt_succ _), List.nil_append,
      ← absorb_block cmp h buf' _ hfull, List.append_assoc, List.take_append_drop]
  | case3 h buf data hd hb' space buf' hnot ih =>
    have hlt : buf'.length < 64 := by
      have : buf'.length ≤ buf.length + space := by
        rw [List.length_append]; exact Nat.add_le_add_left (List.length_take_le _ _) _
      omega
    rw [updLoop, dif_neg hd, dif_pos hb', if_neg hnot, ih hlt, List.append_assoc, List.take_append_drop]
  | case4 h buf data hd hb' => exact absurd hb hb'

theorem absorb_one (s : State) (blk : Bytes) (h : blk.length = 64) : absorb cmp s blk = (cmp s blk, []) := by
  have := absorb_block cmp s blk [] h
  rwa [List.append_nil, absorb_short cmp _ [] (by decide)] at this

theorem be64_length (n : Nat) : (be64 n).length = 8 := rfl

/-- the two cases of `digestHex`: the `0x80` byte and the length still fit into the current block … -/
theorem append_pad_short (buf : Bytes) {n : Nat} (h : n % 64 + 1 ≤ 56) :
    buf ++ pad n = buf ++ [0x80] ++ List.replicate (56 - (n % 64 + 1)) 0 ++ be64 (n * 8) := by
  rw [pad, zeroPad]
  generalize n % 64 = r at h ⊢
  rw [show 119 - r = 56 - (r + 1) + 64 from (Nat.add_sub_add_right 119 1 r).symm.trans (Nat.sub_add_comm (m := 64) h),
    Nat.add_mod_right, Nat.mod_eq_of_lt (Nat.lt_of_le_of_lt (Nat.sub_le _ _) (by decide)),
    List.append_assoc, List.append_assoc]
  rfl

/-- … or the block is filled up with zeros and one more follows -/
theorem append_pad_long (buf : Bytes) {n : Nat} (h : 56 < n % 64 + 1) :
    buf ++ pad n =
      (buf ++ [0x80] ++ List.replicate (64 - (n % 64 + 1)) 0) ++ (List.replicate 56 0 ++ be64 (n * 8)) := by
  have hr := Nat.mod_lt n (by decide : 0 < 64)
  rw [pad, zeroPad]
  generalize n % 64 = r at h hr ⊢
  rw [Nat.mod_eq_of_lt (Nat.lt_of_le_of_lt (Nat.sub_le_sub_left (Nat.le_of_lt_succ h) 119) (by decide)),
    show 119 - r = 64 - (r + 1) + 56 from (Nat.add_sub_add_right 119 1 r).symm.trans (Nat.sub_add_comm (m := 56) hr),
    ← List.replicate_append_replicate]
  simp only [List.append_assoc, List.cons_append, List.nil_append]

theorem and255 (x : Nat) : x &&& 255 = x % 256 := Nat.and_two_pow_sub_one_eq_mod x 8

theorem byte_hi (N s : Nat) : ((N / 0x100000000) >>> s) &&& 255 = (N >>> (32 + s)) % 256 := by
  rw [and255, Nat.shiftRight_add, Nat.shiftRight_eq_div_pow N 32]

theorem byte_lo (N s : Nat) (h : s ≤ 24) : ((N % 0x100000000) >>> s) &&& 255 = (N >>> s) % 256 := by
  have e : 0x100000000 = 2 ^ s * (2 ^ (24 - s) * 256) := by
    rw [← Nat.mul_assoc, ← Nat.pow_add, Nat.add_sub_cancel' h]
  rw [and255, Nat.shiftRight_eq_div_pow, Nat.shiftRight_eq_div_pow, e, Nat.mod_mul_right_div_self,
    Nat.mod_mul_left_mod]

/-- the eight length bytes written by `digestHex` are the big-endian 64-bit bit length -/
theorem lenBytes_eq (N : Nat) :
    [UInt8.ofNat (((N / 0x100000000) >>> 24) &&& 255), UInt8.ofNat (((N / 0x100000000) >>> 16) &&& 255),
      UInt8.ofNat (((N / 0x100000000) >>> 8) &&& 255), UInt8.ofNat ((N / 0x100000000) &&& 255),
      UInt8.ofNat (((N % 0x100000000) >>> 24) &&& 255), UInt8.ofNat (((N % 0x100000000) >>> 16) &&& 255),
      UInt8.ofNat (((N % 0x100000000) >>> 8) &&& 255), UInt8.ofNat ((N % 0x100000000) &&& 255)] = be64 N := by
  have hi0 : (N / 0x100000000) &&& 255 = (N >>> 32) % 256 := byte_hi N 0
  have lo0 : (N % 0x100000000) &&& 255 = (N >>> 0) % 256 := byte_lo N 0 (Nat.zero_le _)
  rw [byte_hi N 24, byte_hi N 16, byte_hi N 8, hi0, byte_lo N 24 (Nat.le_refl _), byte_lo N 16 (by decide),
    byte_lo N 8 (by decide), lo0]
  rfl

/-- writer invariant: state and buffer are "all complete blocks of the message so far absorbed" -/
def Writer.Inv (iv : State) (w : Writer) (msg : Bytes) : Prop :=
  (w.h, w.buffer) = absorb cmp iv msg ∧ w.bytesHashed = msg.length ∧ w.finished = false

theorem Writer.inv_buffer_len {iv : State} {w : Writer} {msg : Bytes} (h : Writer.Inv cmp iv w msg) :
    w.buffer.length = msg.length % 64 := by
  rw [← absorb_tail_len cmp iv msg, ← h.1]

theorem Writer.inv_buffer_lt {iv : State} {w : Writer} {msg : Bytes} (h : Writer.Inv cmp iv w msg) :
    w.buffer.length < 64 := by
  have := absorb_tail_lt cmp iv msg
  rwa [← h.1] at this

theorem Writer.updateBytes_inv {iv : State} {w : Writer} {msg : Bytes} (h : Writer.Inv cmp iv w msg)
    (data : Bytes) :
    ∃ w', Writer.updateBytesWith cmp w data = some w' ∧ Writer.Inv cmp iv w' (msg ++ data) := by
  have hb := Writer.inv_buffer_lt cmp h
  obtain ⟨h1, h2, h3⟩ := h
  refine ⟨_, by rw [Writer.updateBytesWith, h3]; rfl, ?_, ?_, rfl⟩
  · rw [absorb_append cmp iv msg data, ← h1, ← updLoop_eq_absorb cmp w.h w.buffer data hb]
  · rw [List.length_append, ← h2]

theorem Writer.digest_spec {iv : State} {w : Writer} {msg : Bytes} (h : Writer.Inv cmp iv w msg) :
    Writer.digestWith cmp w = some (sha256With cmp iv msg) := by
  have hl : (w.buffer ++ [0x80]).length = msg.length % 64 + 1 := by
    rw [List.length_append, Writer.inv_buffer_len cmp h]; rfl
  obtain ⟨h1, h2, h3⟩ := h
  rw [sha256With, absorb_append cmp iv msg, ← h1, Writer.digestWith, h3, if_neg Bool.false_ne_true]
  simp only [h2, lenBytes_eq, hl]
  split
  · next hc =>
    rw [append_pad_long _ hc, absorb_block cmp _ _ _ (by
        rw [List.length_append, hl, List.length_replicate]
        exact Nat.add_sub_cancel' (Nat.mod_lt _ (by decide))),
      absorb_one cmp _ _ (by rw [List.length_append, List.length_replicate, be64_length])]
  · next hc =>
    rw [append_pad_short _ (Nat.le_of_not_lt hc),
      absorb_one cmp _ _ (by
        rw [List.length_append, List.length_append, hl, List.length_replicate, be64_length,
          Nat.add_sub_cancel' (Nat.le_of_not_lt hc)])]

theorem Writer.init_inv : Writer.Inv cmp IV Writer.init [] :=
  ⟨(absorb_short cmp IV [] (by decide)).symm, rfl, rfl⟩

/-- `updateBytes` called with any sequence of chunks: the model's `Writer.updateChunks` for any `cmp` (`C13.updateChunks_eq`) -/
def Writer.updateChunksWith (w : Writer) : List Bytes → Option Writer
  | [] => some w
  | c :: cs => match Writer.updateBytesWith cmp w c with
    | some w' => Writer.updateChunksWith w' cs
    | none => none

theorem Writer.updateChunks_inv {iv : State} : ∀ (chunks : List Bytes) {w : Writer} {msg : Bytes},
    Writer.Inv cmp iv w msg →
    ∃ w', Writer.updateChunksWith cmp w chunks = some w' ∧ Writer.Inv cmp iv w' (msg ++ chunks.flatten)
  | [], w, msg, h => ⟨w, rfl, by rwa [List.flatten_nil, List.append_nil]⟩
  | c :: cs, w, msg, h => by
    obtain ⟨w1, e1, i1⟩ := Writer.updateBytes_inv cmp h c
    obtain ⟨w2, e2, i2⟩ := Writer.updateChunks_inv cs i1
    exact ⟨w2, by rw [Writer.updateChunksWith, e1]; exact e2, by rwa [List.flatten_cons, ← List.append_assoc]⟩

/-! ### `compress` as folds over lists

The model follows hash.ts: arrays indexed inside `for` loops, which the kernel evaluates slowly (every `Array.getD` walks a
chain of unevaluated `push`es). `compressL` conses the message schedule newest word first and folds the rounds over the
zipped constants and schedule; the test vectors are evaluated through it. -/

/-- the next word of the message schedule (hash.ts:184-188); `back k` is the word `k` places back -/
def nextWord (back : Nat → UInt32) : UInt32 :=
  let w15 := back 15
  let w2 := back 2
  let s0 := rotr w15 7 ^^^ rotr w15 18 ^^^ (w15 >>> 3)
  let s1 := rotr w2 17 ^^^ rotr w2 19 ^^^ (w2 >>> 10)
  back 16 + s0 + back 7 + s1

/-- `n` further words of the schedule; `ws` holds the words so far, newest first -/
def extend : Nat → List UInt32 → List UInt32
  | 0, ws => ws
  | n + 1, ws => extend n (nextWord (fun k => ws.getD (k - 1) 0) :: ws)

theorem getD_back (ws : List UInt32) {k : Nat} (h0 : 0 < k) (hk : k ≤ ws.length) :
    ws.reverse.toArray.getD (ws.length - k) 0 = ws.getD (k - 1) 0 := by
  rw [Array.getD_eq_getD_getElem?, List.getD_eq_getElem?_getD, List.getElem?_toArray,
    List.getElem?_reverse (Nat.sub_lt (Nat.lt_of_lt_of_le h0 hk) h0), Nat.sub_right_comm, Nat.sub_sub_self hk]

theorem schedule_loop (n : Nat) : ∀ ws : List UInt32, 16 ≤ ws.length →
    (List.range' ws.length n).foldl (fun (w : Array UInt32) i => w.push (nextWord fun k => w.getD (i - k) 0))
        ws.reverse.toArray = (extend n ws).reverse.toArray := by
  induction n with
  | zero => intro ws _; rfl
  | succ n ih =>
    intro ws h
    have e : nextWord (fun k => ws.reverse.toArray.getD (ws.length - k) 0) = nextWord (fun k => ws.getD (k - 1) 0) := by
      simp only [nextWord, getD_back ws (k := 16) (by decide) h, getD_back ws (k := 15) (by decide) (Nat.le_trans (by decide) h),
        getD_back ws (k := 7) (by decide) (Nat.le_trans (by decide) h),
        getD_back ws (k := 2) (by decide) (Nat.le_trans (by decide) h)]
    rw [List.range'_succ, List.foldl_cons, e, extend,
      ← ih (nextWord (fun k => ws.getD (k - 1) 0) :: ws) (Nat.le_succ_of_le h), List.reverse_cons, ← List.push_toArray]
    rfl

def scheduleL (chunk : Bytes) : List UInt32 :=
  (extend 48 (Array.ofFn (n := 16) fun i => wordAt chunk i.val).toList.reverse).reverse

theorem schedule_eq (chunk : Bytes) : schedule chunk = (scheduleL chunk).toArray := by
  have h := schedule_loop 48 (Array.ofFn (n := 16) fun i => wordAt chunk i.val).toList.reverse
    (by rw [List.length_reverse, Array.length_toList, Array.size_ofFn]; exact Nat.le_refl _)
  rw [List.reverse_reverse, Array.toArray_toList, List.length_reverse, Array.length_toList, Array.size_ofFn] at h
  rw [scheduleL, ← h]
  simp only [schedule, Std.Legacy.Range.forIn_eq_forIn_range', Std.Legacy.Range.size, List.forIn_pure_yield_eq_foldl]
  rfl

theorem extend_length : ∀ (n : Nat) (ws : List UInt32), (extend n ws).length = ws.length + n
  | 0, _ => rfl
  | n + 1, ws => by rw [extend, extend_length n, List.length_cons, Nat.add_right_comm, Nat.add_assoc]

abbrev Regs := UInt32 × UInt32 × UInt32 × UInt32 × UInt32 × UInt32 × UInt32 × UInt32

/-- one round (hash.ts:199-215), with its round constant and schedule word -/
def round (r : Regs) (kw : UInt32 × UInt32) : Regs :=
  let (a, b, c, d, e, f, g, h) := r
  let s1 := rotr e 6 ^^^ rotr e 11 ^^^ rotr e 25
  let ch := (e &&& f) ^^^ (~~~e &&& g)
  let temp1 := h + s1 + ch + kw.1 + kw.2
  let s0 := rotr a 2 ^^^ rotr a 13 ^^^ rotr a 22
  let maj := (a &&& b) ^^^ (a &&& c) ^^^ (b &&& c)
  (temp1 + (s0 + maj), a, b, c, d + temp1, e, f, g)

def compressL (s : State) (chunk : Bytes) : State :=
  let (a, b, c, d, e, f, g, h) :=
    (K.toList.zip (scheduleL chunk)).foldl round (s.h0, s.h1, s.h2, s.h3, s.h4, s.h5, s.h6, s.h7)
  ⟨s.h0 + a, s.h1 + b, s.h2 + c, s.h3 + d, s.h4 + e, s.h5 + f, s.h6 + g, s.h7 + h⟩

theorem getD_eq_toList_getD {α : Type} (as : Array α) (i : Nat) (d : α) : as.getD i d = as.toList.getD i d := by
  rw [Array.getD_eq_getD_getElem?, List.getD_eq_getElem?_getD, Array.getElem?_toList]

theorem foldl_range'_eq_foldl_zip {σ α β : Type} (f : σ → α × β → σ) (da : α) (db : β) :
    ∀ (as : List α) (bs : List β) (s : σ), as.length = bs.length →
      (List.range' 0 as.length).foldl (fun st i => f st (as.getD i da, bs.getD i db)) s = (as.zip bs).foldl f s
  | [], _, _, _ => rfl
  | a :: as, [], _, h => by cases h
  | a :: as, b :: bs, s, h => by
    rw [List.length_cons, List.range'_succ, List.foldl_cons, Nat.add_comm 0 1, ← List.map_add_range' (a := 1), List.foldl_map,
      List.zip_cons_cons, List.foldl_cons, ← foldl_range'_eq_foldl_zip f da db as bs _ (Nat.succ.inj h)]
    simp only [Nat.add_comm 1, List.getD_cons_succ, List.getD_cons_zero]

theorem compress_eq : compress = compressL := by
  funext s chunk
  have hk : K.toList.length = 64 := rfl
  have hs : (scheduleL chunk).length = 64 := by
    rw [scheduleL, List.length_reverse, extend_length, List.length_reverse, Array.length_toList, Array.size_ofFn]
  rw [compressL, ← foldl_range'_eq_foldl_zip round 0 0 _ _ _ (hk.trans hs.symm), hk]
  simp only [compress, Std.Legacy.Range.forIn_eq_forIn_range', Std.Legacy.Range.size, List.forIn_pure_yield_eq_foldl,
    schedule_eq, getD_eq_toList_getD, Nat.sub_zero, Nat.add_sub_cancel, Nat.div_one]
  -- on the closed lists `rfl` would start to evaluate the schedule
  generalize scheduleL chunk = ws, K.toList = ks, List.range' 0 64 = l
  rfl

theorem sha256_eq (msg : Bytes) : sha256 msg = sha256With compressL IV msg := by
  rw [sha256, compress_eq]

end BeffVerif.Sha
