import BeffVerif.Props.C08
/-!
# C08 — the order of declarations does not matter (reference level)

The reference semantics consults the declarations only through "the declaration named n". Two declaration lists that
agree on every such lookup give the same meaning to every type at every fuel (`mem_congr`); a permutation of a list
of declarations with distinct names agrees on every lookup (`find_perm`); hence reordering declarations never changes
⟦t⟧ (`spec_decls_perm`).
-/
namespace BeffVerif.C08
open BeffVerif Spec

section
variable (decls decls' : List Decl)
variable (hfind : ∀ name : String, decls.find? (fun d => d.name == name) = decls'.find? (fun d => d.name == name))
include hfind

/- Each congruence (of `Spec.litKeys`, `Spec.shape`, `Spec.mem`, all under the hypothesis `hfind`): unfold one step on both sides (by `whnf`: `simp` through the whole body is several times slower to
check) and rewrite the recursive calls; the two `match`es then differ only in the branch for a reference, which looks
the name up. -/

theorem litKeys_congr : ∀ n, litKeys decls n = litKeys decls' n := by
  intro n
  induction n with
  | zero => funext t; rfl
  | succ k ih =>
    funext t
    rw [litKeys.eq_def, litKeys.eq_def]
    conv => lhs; whnf
    conv => rhs; whnf
    rw [ih]
    congr 1
    funext name args
    rw [hfind name]

theorem shape_congr : ∀ n, shape decls n = shape decls' n := by
  intro n
  induction n with
  | zero => funext t; rfl
  | succ k ih =>
    funext t
    rw [shape.eq_def, shape.eq_def]
    conv => lhs; whnf
    conv => rhs; whnf
    rw [ih, litKeys_congr decls decls' hfind k]
    congr 1
    funext name args
    rw [hfind name]

theorem mem_congr : ∀ n, mem decls n = mem decls' n := by
  intro n
  induction n with
  | zero => funext t v; rfl
  | succ k ih =>
    funext t v
    rw [mem.eq_def, mem.eq_def]
    conv => lhs; whnf
    conv => rhs; whnf
    -- `mem` asks for shapes at the fixed fuel 50
    rw [ih, shape_congr decls decls' hfind 50]
    congr 1
    funext name args
    rw [hfind name]

end

/-- in a list with distinct names, "the first declaration named n" is the same for every permutation -/
theorem find_perm {l1 l2 : List Decl} (hp : l1.Perm l2) (hd : (l1.map Decl.name).Nodup) (name : String) :
    l1.find? (fun d => d.name == name) = l2.find? (fun d => d.name == name) := by
  induction hp with
  | nil => rfl
  | cons x _ ih => rw [List.find?_cons, List.find?_cons, ih (List.nodup_cons.1 hd).2]
  | swap x y l =>
    have hxy : y.name ≠ x.name := fun e => (List.nodup_cons.1 hd).1 (e ▸ List.mem_cons_self)
    simp only [List.find?_cons]
    cases h1 : x.name == name <;> cases h2 : y.name == name <;> try rfl
    exact absurd ((beq_iff_eq.1 h2).trans (beq_iff_eq.1 h1).symm) hxy
  | trans h12 _ ih1 ih2 => rw [ih1 hd, ih2 ((h12.map Decl.name).nodup_iff.1 hd)]

/-- **Reordering declarations never changes the meaning of a type** (distinct names), for every fuel and value -/
theorem spec_decls_perm (l1 l2 : List Decl) (hp : l1.Perm l2) (hd : (l1.map Decl.name).Nodup)
    (n : Nat) (t : Ty) (v : JsVal) : mem l1 n t v = mem l2 n t v := by
  rw [mem_congr l1 l2 (find_perm hp hd) n]

end BeffVerif.C08
