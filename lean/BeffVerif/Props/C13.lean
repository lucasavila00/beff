import BeffVerif.Lemmas.Sha
/-!
# C13 — hash256 is … computed as real SHA-256

Digest-routine part of the property: for ALL sequences of `updateBytes` calls (every split of the message
into chunks, hence every block-boundary and padding case) the writer's digest is the specification `Sha.sha256` of the
concatenated bytes: FIPS 180-4 padding and blocks around the writer's own round function, which the two test vectors at
the end tie to FIPS. The round constants / initial state are the REGENERATED `Gen.shaK/shaIV` and are
proved to be the FIPS constants by their defining property (fractional parts of cube / square roots of
the first primes), not by comparison with a second hand-typed table.
-/
namespace BeffVerif.C13
open BeffVerif Sha

/-- Every write sequence, for any compression function (so the buffering/padding logic is correct independently of the
round function): the digest equals the specification hash of the concatenation. -/
theorem writer_digest_eq_spec_param (cmp : State → Bytes → State) (chunks : List Bytes) :
    ∃ w, Writer.updateChunksWith cmp Writer.init chunks = some w ∧
      Writer.digestWith cmp w = some (sha256With cmp IV chunks.flatten) := by
  obtain ⟨w, e, i⟩ := Writer.updateChunks_inv cmp chunks (Writer.init_inv cmp)
  exact ⟨w, e, Writer.digest_spec cmp i⟩

/-- … for the writer's own round function; `sha256` is `sha256With compress IV`. -/
theorem writer_digest_eq_spec (chunks : List Bytes) :
    ∃ w, Writer.updateChunksWith compress Writer.init chunks = some w ∧
      Writer.digestWith compress w = some (sha256 chunks.flatten) :=
  writer_digest_eq_spec_param compress chunks

/-- After `digestHex` the writer refuses further writes (`finished`): modelled as `none`. -/
theorem finished_writer_rejects (w : Writer) (h : w.finished = true) (d : Bytes) :
    Writer.updateBytesWith compress w d = none ∧ Writer.digestWith compress w = none := by
  simp [Writer.updateBytesWith, Writer.digestWith, h]

/-- The padded message is a whole number of blocks (so `absorb` consumes it entirely). -/
theorem pad_block_aligned (n : Nat) : (n + (pad n).length) % 64 = 0 := by
  rw [pad, List.length_append, List.length_cons, List.length_replicate, be64_length, zeroPad]; omega

def primes64 : List Nat := [2, 3, 5, 7, 11, 13, 17, 19, 23, 29, 31, 37, 41, 43, 47, 53, 59, 61, 67, 71, 73,
  79, 83, 89, 97, 101, 103, 107, 109, 113, 127, 131, 137, 139, 149, 151, 157, 163, 167, 173, 179, 181, 191,
  193, 197, 199, 211, 223, 227, 229, 233, 239, 241, 251, 257, 263, 269, 271, 277, 281, 283, 293, 307, 311]

def isPrime (p : Nat) : Bool := 2 ≤ p && (List.range p).all (fun d => d < 2 || p % d != 0)

theorem isPrime_iff {p : Nat} : isPrime p = true ↔ 2 ≤ p ∧ ∀ d, 2 ≤ d → d < p → p % d ≠ 0 := by
  simp only [isPrime, Bool.and_eq_true, decide_eq_true_eq, List.all_eq_true, List.mem_range, Bool.or_eq_true, bne_iff_ne]
  exact and_congr_right fun _ => forall_congr' fun d =>
    ⟨fun h h2 hd => (h hd).resolve_left (Nat.not_lt.2 h2), fun h hd => (Nat.lt_or_ge d 2).imp_right fun h2 => h h2 hd⟩

/-- a divisor `d ≥ b` of `p < b * b` comes with the divisor `p / d < b` -/
theorem isPrime_eq_of_lt_sq {p b : Nat} (hb : p < b * b) :
    isPrime p = (decide (2 ≤ p) && (List.range (min b p)).all (fun d => d < 2 || p % d != 0)) := by
  rw [Bool.eq_iff_iff, isPrime_iff]
  simp only [Bool.and_eq_true, decide_eq_true_eq, List.all_eq_true, List.mem_range, Bool.or_eq_true, bne_iff_ne]
  refine and_congr_right fun hp => ⟨fun h d hd => ?_, fun h d h2 hd hm => ?_⟩
  · exact (Nat.lt_or_ge d 2).imp_right fun h2 => h d h2 (Nat.lt_of_lt_of_le hd (Nat.min_le_right _ _))
  · by_cases hdb : d < b
    · exact (h d (Nat.lt_min.2 ⟨hdb, hd⟩)).elim (Nat.not_lt.2 h2) (· hm)
    · obtain ⟨e, rfl⟩ := Nat.dvd_of_mod_eq_zero hm
      have he2 : 2 ≤ e := by
        rcases e with _ | _ | e <;> omega
      have heb : e < b := Nat.lt_of_not_le fun hbe =>
        Nat.lt_irrefl _ (Nat.lt_of_lt_of_le hb (Nat.mul_le_mul (Nat.le_of_not_lt hdb) hbe))
      have hep : 2 * e ≤ d * e := Nat.mul_le_mul_right e h2
      exact (h e (by omega)).elim (by omega) (· (Nat.mul_mod_left d e))

/-- the list really is "the first 64 primes": all prime, and exactly the primes below 312 in increasing order -/
theorem primes64_are_first_primes :
    primes64.all isPrime = true ∧ primes64.length = 64 ∧
      ((List.range 312).filter isPrime) = primes64 := by
  -- below 312 < 18² the kernel only divides by the numbers below 18
  have h : (List.range 312).filter isPrime = primes64 := by
    rw [List.filter_congr (q := fun p => decide (2 ≤ p) && (List.range (min 18 p)).all (fun d => d < 2 || p % d != 0))
      fun p hp => isPrime_eq_of_lt_sq (b := 18) (Nat.lt_trans (List.mem_range.1 hp) (by decide))]
    decide +kernel
  refine ⟨?_, rfl, h⟩
  rw [← h, List.all_filter]
  simp

/-- integer cube root, for `p < 8 ^ 3` -/
def icbrt (p : Nat) : Nat := (List.range 8).foldl (fun acc n => if n * n * n ≤ p then n else acc) 0
/-- integer square root, for `p < 20 ^ 2` -/
def isqrt (p : Nat) : Nat := (List.range 20).foldl (fun acc n => if n * n ≤ p then n else acc) 0

/-- `k` is the first 32 bits of the fractional part of the cube root of `p` -/
def isCbrtFrac (p k : Nat) : Bool :=
  let x := icbrt p * 2 ^ 32 + k
  k < 2 ^ 32 && x ^ 3 ≤ p * 2 ^ 96 && p * 2 ^ 96 < (x + 1) ^ 3

/-- `k` is the first 32 bits of the fractional part of the square root of `p` -/
def isSqrtFrac (p k : Nat) : Bool :=
  let x := isqrt p * 2 ^ 32 + k
  k < 2 ^ 32 && x ^ 2 ≤ p * 2 ^ 64 && p * 2 ^ 64 < (x + 1) ^ 2

theorem K_is_fips : Gen.shaK.length = 64 ∧
    (List.zipWith isCbrtFrac primes64 Gen.shaK).all id = true := by decide +kernel

theorem IV_is_fips : Gen.shaIV.length = 8 ∧
    (List.zipWith isSqrtFrac (primes64.take 8) Gen.shaIV).all id = true := by decide +kernel

/-- the six tag bytes are pairwise distinct (token kinds cannot be confused) -/
theorem tag_bytes_distinct :
    [Gen.tagTag, Gen.tagString, Gen.tagNumber, Gen.tagTrue, Gen.tagFalse, Gen.tagNull].Nodup ∧
      [Gen.tagTag, Gen.tagString, Gen.tagNumber, Gen.tagTrue, Gen.tagFalse, Gen.tagNull].all (· < 256) = true := by
  decide

/-- the model's `Writer.updateChunks` (what the driver runs) is the function `writer_digest_eq_spec` speaks of -/
theorem updateChunks_eq : ∀ (cs : List Bytes) (w : Writer), w.updateChunks cs = Writer.updateChunksWith compress w cs
  | [], _ => rfl
  | c :: cs, w => by
    rw [Writer.updateChunks, Writer.updateChunksWith, Writer.updateBytes]
    cases Writer.updateBytesWith compress w c with
    | none => rfl
    | some w' => exact updateChunks_eq cs w'

theorem chunks_flatten : ∀ t : Tok, t.chunks.flatten = t.bytes
  | .bool true | .bool false | .null | .tag _ | .str _ | .num _ => by
    simp only [Tok.chunks, Tok.bytes, withLen, List.flatten_cons, List.flatten_nil, List.append_nil, List.singleton_append]

/-- token-level writes feed exactly the canonical encoding to the digest -/
theorem hashToks_eq (ts : List Tok) : hashToks ts = some (sha256 (encodeToks ts)).hex := by
  have hfl : ((ts.map Tok.chunks).flatten).flatten = encodeToks ts := by
    rw [encodeToks, List.flatten_flatten, List.map_map]
    exact congrArg List.flatten (List.map_congr_left fun t _ => chunks_flatten t)
  obtain ⟨w, e, d⟩ := writer_digest_eq_spec ((ts.map Tok.chunks).flatten)
  rw [hashToks, updateChunks_eq, e]
  show (Writer.digestWith compress w).map State.hex = _
  rw [d, hfl]; rfl

/-! Non-vacuity / sanity: the model reproduces the FIPS test vectors (kernel-checked evaluation). -/
example : (sha256 "abc".toUTF8.toList).hex =
    "ba7816bf8f01cfea414140de5dae2223b00361a396177a9cb410ff61f20015ad" := by
  rewrite [sha256_eq]; decide +kernel
example : (sha256 []).hex = "e3b0c44298fc1c149afbf4c8996fb92427ae41e4649b934ca495991b7852b855" := by
  rewrite [sha256_eq]; decide +kernel

end BeffVerif.C13
