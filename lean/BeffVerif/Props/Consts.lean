import BeffVerif.Gen.ClientConsts
import BeffVerif.Model.TsCore
import BeffVerif.Model.Parse
import BeffVerif.Model.Hash256
/-!
# (T) small constant tables, regenerated from the source on every run

`tools/translate/client_consts.py` rewrites `Gen/ClientConsts.lean` from /repo: the keys a closed object schema may carry to be
merged (`MERGEABLE_OBJECT_SCHEMA_KEYS`), the keys `deepmerge` refuses to copy (`isNotPrototypeKey`), every tag `hash256` writes
(the `updateTag("…")` literals of `codegen-v2.ts`) and the typed-array kinds of the compiler (`TypedArrayKind::js_name`). The
obligations below say that the regenerated tables are the ones the hand-written models use (the first two against the model's
own table, the last two against a hand copy of the literals in `tryMergeAllOf` / `RT.h256`): a change of any of them in the
source breaks the obligation of the checks that depend on it (C01, C02, C03, C13) before any request is generated.
-/
namespace BeffVerif.Consts
open BeffVerif

/-- the typed-array kinds of the compiler are the ones the frontend model knows (`Lower.typedArrayNames`) -/
theorem typed_array_kinds_current : Gen.typedArrayKinds = Lower.typedArrayNames := rfl

/-- `deepmerge` refuses exactly the keys `RT.isNotPrototypeKey` (Model/Parse.lean) refuses -/
theorem deepmerge_refused_keys_current (k : String) : RT.isNotPrototypeKey k = !(Gen.deepmergeRefusedKeys.contains k) := by
  simp only [RT.isNotPrototypeKey, Gen.deepmergeRefusedKeys, List.contains_cons, List.contains_nil, Bool.or_false, Bool.not_or,
    bne, Bool.and_assoc]

/-- the keys `tryMergeAllOf` (Model/Schema.lean) lets a mergeable closed object schema carry -/
theorem mergeable_keys_current : Gen.mergeableSchemaKeys = ["type", "properties", "required", "additionalProperties"] := rfl

/-- the tags `RT.h256` (Model/Hash256.lean) and the root writer can emit -/
def modelTags : List String :=
  ["allOf", "any", "anyOf", "anyOfConsts", "anyOfDiscriminated", "array", "beff-hash256-v1", "bigint", "boolean", "const",
   "cycleRef", "date", "map", "never", "noRest", "nullish", "number", "numberWithFormat", "object", "optionalField", "regex",
   "rest", "set", "string", "stringWithFormat", "tuple", "typedArray", "typeof"]

theorem hash256_tags_current : Gen.hash256Tags = modelTags := rfl

end BeffVerif.Consts
