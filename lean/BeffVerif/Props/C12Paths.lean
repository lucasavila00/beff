import BeffVerif.Props.C12Received
/-!
# C12 — every reported error sits at or below the position it was reported for

`report_paths_extend`: for every environment, mode, fuel, runtype, path and value, every top-level error returned by
`reportDecodeError ctx(path)` carries a path that starts with `path` (errors point INTO the inspected position, never
elsewhere in the input). The errors nested inside a union error are relative to the union's own path
(`buildUnionError` re-anchors a single nested error with `prependPath`). It is the path half of `report_received_located`.
-/
namespace BeffVerif.C12
open BeffVerif RT

def DErr.path : DErr → List String
  | .regular _ p _ => p
  | .union p _ _ => p

theorem Loc.prefix {base : List String} {v : JsVal} {e : DErr} (h : Loc base v e) : base <+: DErr.path e := by
  cases e with
  | regular m p r => obtain ⟨rel, hp, _⟩ := h; exact ⟨rel, hp.symm⟩
  | union p r es => obtain ⟨rel, hp, _⟩ := h; exact ⟨rel, hp.symm⟩

/-- **Errors point into the inspected position**: every error reported for `path` has a path extending `path` -/
theorem report_paths_extend (env : Env) (strict : Bool) (n : Nat) (rt : RT) (path : List String) (v : JsVal)
    (errs : List DErr) (h : report env strict n rt path v = .ok errs) : ∀ e ∈ errs, path <+: DErr.path e :=
  fun e he => (report_received_located env strict n rt path v errs h e he).prefix

end BeffVerif.C12
