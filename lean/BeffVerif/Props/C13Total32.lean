import BeffVerif.Props.C13Total
/-!
# C13 — the 32-bit `hash()` terminates on recursive types

The same argument as `Props/C13Total.lean` for `RT.hash` (Model/Hash.lean): a named type is expanded only while its name is not
in `seen`, an expansion puts it there, an alias (`type A = B`) is followed through its — finite — chain of description wrappers
and names. `hash32_total`: in an environment in which every name resolves, every constant has a 32-bit hash in the model and the
`typeof` tags are the three the runtime hashes, `hash` answers for every runtype and every set of names under expansion at fuel
`K·(D+1)+w` (`K` names not yet seen, `D` / `w` nesting depths).
-/
namespace BeffVerif.C13T
open BeffVerif RT JsVal

section
variable (env : Env)

/-- `WF` for `hash()`. No rank: the body of an alias must itself be `WF32` at the smaller bound (`hash` runs on the body, not on
the other name); `disc` constrains `ss` only, the one field `hash` reads. -/
inductive WF32 : Nat → RT → Prop
  | typeof {w t} : t = "string" ∨ t = "number" ∨ t = "boolean" → WF32 (w + 1) (.typeof t)
  | any {w} : WF32 (w + 1) .any
  | nullish {w d} : WF32 (w + 1) (.nullish d)
  | never {w} : WF32 (w + 1) .never
  | const {w v} : (constHash v).isSome = true → WF32 (w + 1) (.const v)
  | regex {w tpl d} : WF32 (w + 1) (.regex tpl d)
  | date {w} : WF32 (w + 1) .date
  | bigint {w} : WF32 (w + 1) .bigint
  | typed {w c} : WF32 (w + 1) (.typed c)
  | strfmt {w fs} : WF32 (w + 1) (.strfmt fs)
  | numfmt {w fs} : WF32 (w + 1) (.numfmt fs)
  | consts {w vs} : (∀ v ∈ vs, (constHash v).isSome = true) → WF32 (w + 1) (.consts vs)
  | tuple {w pre rest} : (∀ t ∈ pre, WF32 w t) → (∀ r, rest = some r → WF32 w r) → WF32 (w + 1) (.tuple pre rest)
  | allOf {w ts} : (∀ t ∈ ts, WF32 w t) → WF32 (w + 1) (.allOf ts)
  | anyOf {w ts} : (∀ t ∈ ts, WF32 w t) → WF32 (w + 1) (.anyOf ts)
  | array {w t} : WF32 w t → WF32 (w + 1) (.array t)
  | map {w k v} : WF32 w k → WF32 w v → WF32 (w + 1) (.map k v)
  | set {w t} : WF32 w t → WF32 (w + 1) (.set t)
  | disc {w ss key m sm} : (∀ t ∈ ss, WF32 w t) → WF32 (w + 1) (.disc ss key m sm)
  | optional {w t} : WF32 w t → WF32 (w + 1) (.optional t)
  | object {w props ix} : (∀ p ∈ props, WF32 w p.2) → (∀ p ∈ ix, WF32 w p.1) → (∀ p ∈ ix, WF32 w p.2) → WF32 (w + 1) (.object props ix)
  | ref {w name to} : env.lookup name = some to → (∀ other, stripDesc to = .ref other → WF32 w to) → WF32 (w + 1) (.ref name)
  | described {w d t} : WF32 w t → WF32 (w + 1) (.described d t)

/-- names of the environment not under expansion -/
def K32 (seen : List String) : Nat := ((env.map (·.1)).filter (fun n => !(seen.contains n))).length
end

variable {env : Env}

theorem K32_push {seen : List String} {name : String} {to : RT} (hl : env.lookup name = some to)
    (hs : seen.contains name = false) : K32 env (name :: seen) < K32 env seen := by
  refine filter_length_lt _ _ _ (fun x hx => ?_) name (lookup_mem_names hl) ?_ ?_
  · rw [List.contains_cons, Bool.not_or, Bool.and_eq_true] at hx
    exact hx.2
  · rw [hs]; rfl
  · rw [List.contains_cons, beq_self_eq_true, Bool.true_or]; rfl

/-- **`hash()` terminates** -/
theorem hash32_total (D : Nat) (henv : ∀ name to, env.lookup name = some to → WF32 env D to) :
    ∀ (fuel : Nat) (rt : RT) (w : Nat) (seen : List String), WF32 env w rt →
      K32 env seen * (D + 1) + w ≤ fuel → (RT.hash env fuel rt seen).isSome = true := by
  intro fuel
  induction fuel with
  | zero =>
    intro rt w seen hw hf
    induction hw <;> exact (Nat.not_succ_le_zero _ hf).elim
  | succ n ih =>
    intro rt w seen hw hf
    have kid : ∀ {w' : Nat} {t : RT}, WF32 env w' t → w' + 1 = w → (RT.hash env n t seen).isSome = true :=
      fun {w' t} ht hww => ih t w' seen ht (by subst hww; exact Nat.le_of_succ_le_succ hf)
    have kids : ∀ {w' : Nat} {ts : List RT}, (∀ t ∈ ts, WF32 env w' t) → w' + 1 = w →
        (mapMO (fun t => RT.hash env n t seen) ts).isSome = true :=
      fun h hww => mapMO_some _ fun t ht => kid (h t ht) hww
    cases hw with
    | typeof h => rcases h with rfl | rfl | rfl <;> rfl
    | const h => exact h
    | consts h => exact Option.isSome_map.trans (mapMO_some _ fun v hv => h v (mem_sortBy hv))
    | tuple h1 h2 =>
      obtain ⟨ps, e1⟩ := Option.isSome_iff_exists.1 (kids h1 rfl)
      dsimp only [RT.hash]
      rw [e1]
      rename_i rest
      cases rest with
      | none => rfl
      | some r =>
        obtain ⟨x, e2⟩ := Option.isSome_iff_exists.1 (kid (h2 r rfl) rfl)
        dsimp only
        rw [e2]; rfl
    | allOf h => exact Option.isSome_map.trans (kids h rfl)
    | anyOf h => exact Option.isSome_map.trans (kids h rfl)
    | disc h => exact Option.isSome_map.trans (kids h rfl)
    | array h => exact Option.isSome_map.trans (kid h rfl)
    | set h => exact Option.isSome_map.trans (kid h rfl)
    | optional h => exact Option.isSome_map.trans (kid h rfl)
    | map h1 h2 =>
      obtain ⟨a, e1⟩ := Option.isSome_iff_exists.1 (kid h1 rfl)
      obtain ⟨b, e2⟩ := Option.isSome_iff_exists.1 (kid h2 rfl)
      dsimp only [RT.hash]
      rw [e1, e2]; rfl
    | described h => exact kid h rfl
    | object h1 h2 h3 =>
      dsimp only [RT.hash]
      generalize hP : mapMO _ (sortBy _ _) = o1
      generalize hI : mapMO _ _ = o2
      have h1' : o1.isSome = true :=
        hP ▸ mapMO_some _ fun p hp => Option.isSome_map.trans (kid (h1 p (mem_sortBy hp)) rfl)
      have h2' : o2.isSome = true := hI ▸ mapMO_some _ fun p hp => by
        obtain ⟨a, ea⟩ := Option.isSome_iff_exists.1 (kid (h2 p hp) rfl)
        obtain ⟨b, eb⟩ := Option.isSome_iff_exists.1 (kid (h3 p hp) rfl)
        rw [ea, eb]; rfl
      obtain ⟨ps, rfl⟩ := Option.isSome_iff_exists.1 h1'
      obtain ⟨is, rfl⟩ := Option.isSome_iff_exists.1 h2'
      rfl
    | @ref w0 name to hl ha =>
      dsimp only [RT.hash]
      rw [hl]
      dsimp only
      split
      · -- an alias: its body (description wrappers around another name) is hashed in place
        next other hs => exact ih to w0 seen (ha other hs) (Nat.le_of_succ_le_succ hf)
      · split
        · rfl
        · next hseen => exact ih to D _ (henv name to hl) (fuel_expand (K32_push hl (Bool.eq_false_iff.2 hseen)) hf)
    | _ => rfl

end BeffVerif.C13T
