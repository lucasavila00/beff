import Std.Data.String.ToNat
import BeffVerif.Model.Hash256
import BeffVerif.Model.Validate
import BeffVerif.Lemmas.Sort
import BeffVerif.Lemmas.RT
import BeffVerif.Lemmas.Pairwise2
import BeffVerif.Props.C13Inj
/-!
# C13 — the Runtype-level encoding omits nothing a validator depends on (closed types)

`RT.h256` (`Model/Hash256.lean`) is the token stream `hash256()` writes for a Runtype tree. This file proves, for trees without
named references (`Good`, which also records what the JavaScript objects guarantee: distinct property names, distinct
discriminator tags, constants that are `Const` values), and given that a template's source determines what it matches
(`SourceDeterminesMatch`):

* the stream is self-delimiting: `ts1 ++ r1 = ts2 ++ r2 → ts1 = ts2 ∧ r1 = r2` (so a parent can be split into its
  children unambiguously), and
* two trees with the same stream accept the same values (`SemEq`): **validators that disagree on a value have
  different token streams**, hence — `C13.tokens_injective` (`Props/C13Inj.lean`) — different byte streams, hence different digests unless
  SHA-256 itself collides.

Both come from one step about a single node (`shape_of_stream`, `semAt_of_shape`), stated for any knowledge about the
children and any set of start offsets, so that `Props/C13Rec` can use it for trees with named references.
-/
namespace BeffVerif.C13T
open BeffVerif RT Sha JsVal

theorem natTok_inj {a b : Nat} (h : natTok a = natTok b) : a = b := by
  unfold natTok at h
  injection h with h
  exact Nat.repr_injective h

theorem singleton_inj {a b : Tok} (h : [a] = [b]) : a = b := (List.cons.inj h).1

def Agree (r1 r2 : Res Bool) : Prop := ∀ b1 b2, r1 = .ok b1 → r2 = .ok b2 → b1 = b2

/-- the two validators never give different answers (fuel exhaustion is not an answer) -/
def SemEq (env1 env2 : Env) (rt1 rt2 : RT) : Prop :=
  ∀ strict m1 m2 x, Agree (validate env1 strict m1 rt1 x) (validate env2 strict m2 rt2 x)

/-- agreement at given fuels (`Props/C13Rec` inducts on them, whence the namespace) -/
def _root_.BeffVerif.C13R.SemAt (env1 env2 : Env) (m1 m2 : Nat) (rt1 rt2 : RT) : Prop :=
  ∀ strict x, Agree (validate env1 strict m1 rt1 x) (validate env2 strict m2 rt2 x)

/-- `e1`, `e2` write self-delimiting streams, and equal streams imply `P` -/
def PF (e1 e2 : Nat → Option (List Tok)) (P : Prop) : Prop :=
  ∀ p1 p2 ts1 ts2 r1 r2, e1 p1 = some ts1 → e2 p2 = some ts2 → ts1 ++ r1 = ts2 ++ r2 → ts1 = ts2 ∧ r1 = r2 ∧ P

/-- `PF` for the start offsets in `O` only: with named references a node's stream depends on where it starts (`C13R.PFs`) -/
def PFOn (O : Nat → Nat → Prop) (e1 e2 : Nat → Option (List Tok)) (P : Prop) : Prop :=
  ∀ p1 p2 ts1 ts2 r1 r2, O p1 p2 → e1 p1 = some ts1 → e2 p2 = some ts2 → ts1 ++ r1 = ts2 ++ r2 → ts1 = ts2 ∧ r1 = r2 ∧ P

/-- the offsets two encoders reach after writing the same stream are again in `O` -/
def Shift (O : Nat → Nat → Prop) : Prop := ∀ a b k, O a b → O (a + k) (b + k)

theorem PF_iff_PFOn {e1 e2 : Nat → Option (List Tok)} {P : Prop} : PF e1 e2 P ↔ PFOn (fun _ _ => True) e1 e2 P :=
  ⟨fun h p1 p2 ts1 ts2 r1 r2 _ => h p1 p2 ts1 ts2 r1 r2, fun h p1 p2 ts1 ts2 r1 r2 => h p1 p2 ts1 ts2 r1 r2 trivial⟩

theorem shift_true : Shift (fun _ _ => True) := fun _ _ _ _ => trivial

theorem andThen_eq_some {f g : Nat → Option (List Tok)} {p : Nat} {ts : List Tok} (h : andThen f g p = some ts) :
    ∃ a b, f p = some a ∧ g (p + bytesLen a) = some b ∧ ts = a ++ b := by
  rw [andThen] at h
  cases ha : f p with
  | none => rw [ha] at h; cases h
  | some a =>
    rw [ha] at h
    obtain ⟨b, hb, e⟩ := Option.map_eq_some_iff.1 h
    exact ⟨a, b, rfl, hb, e.symm⟩

theorem pre_eq_some {l : List Tok} {f : Nat → Option (List Tok)} {p : Nat} {ts : List Tok} (h : pre l f p = some ts) :
    ∃ b, f (p + bytesLen l) = some b ∧ ts = l ++ b := by
  obtain ⟨_, b, hl, hb, rfl⟩ := andThen_eq_some (f := fun _ => some l) h
  cases hl
  exact ⟨b, hb, rfl⟩

theorem pre_head {t : Tok} {l : List Tok} {f : Nat → Option (List Tok)} {p : Nat} {ts : List Tok}
    (h : pre (t :: l) f p = some ts) : ∃ tl, ts = t :: tl := by
  obtain ⟨b, _, rfl⟩ := pre_eq_some h
  exact ⟨l ++ b, rfl⟩

theorem seqT_cons {α : Type} (f : α → Nat → Option (List Tok)) (x : α) (xs : List α) :
    seqT f (x :: xs) = andThen (f x) (seqT f xs) := by
  funext p
  cases ha : f x p with
  | none => simp only [seqT, andThen, ha]
  | some a => simp only [seqT, andThen, ha]; cases seqT f xs (p + bytesLen a) <;> rfl

section
variable {O : Nat → Nat → Prop}

theorem PFOn_mono {e1 e2 : Nat → Option (List Tok)} {P Q : Prop} (h : PFOn O e1 e2 P) (hpq : P → Q) : PFOn O e1 e2 Q := by
  intro p1 p2 ts1 ts2 r1 r2 ho h1 h2 he
  obtain ⟨a, b, c⟩ := h p1 p2 ts1 ts2 r1 r2 ho h1 h2 he
  exact ⟨a, b, hpq c⟩

theorem PFOn_const {l1 l2 : List Tok} {n : Nat} (hl1 : l1.length = n) (hl2 : l2.length = n) :
    PFOn O (fun _ => some l1) (fun _ => some l2) (l1 = l2) := by
  intro p1 p2 ts1 ts2 r1 r2 _ h1 h2 he
  injection h1 with h1; injection h2 with h2
  subst h1; subst h2
  obtain ⟨a, b⟩ := List.append_inj he (hl1.trans hl2.symm)
  exact ⟨a, b, a⟩

theorem PFOn_andThen (hO : Shift O) {f1 f2 g1 g2 : Nat → Option (List Tok)} {P Q : Prop} (hf : PFOn O f1 f2 P)
    (hg : P → PFOn O g1 g2 Q) : PFOn O (andThen f1 g1) (andThen f2 g2) (P ∧ Q) := by
  intro p1 p2 ts1 ts2 r1 r2 ho h1 h2 he
  obtain ⟨a, c, ha, hc, rfl⟩ := andThen_eq_some h1
  obtain ⟨b, d, hb, hd, rfl⟩ := andThen_eq_some h2
  rw [List.append_assoc, List.append_assoc] at he
  obtain ⟨rfl, y, z⟩ := hf _ _ _ _ _ _ ho ha hb he
  obtain ⟨rfl, y', z'⟩ := hg z _ _ _ _ _ _ (hO _ _ _ ho) hc hd y
  exact ⟨rfl, y', z, z'⟩

theorem PFOn_pre (hO : Shift O) {l1 l2 : List Tok} {e1 e2 : Nat → Option (List Tok)} {P : Prop} (hl : l1.length = l2.length)
    (h : l1 = l2 → PFOn O e1 e2 P) : PFOn O (pre l1 e1) (pre l2 e2) (l1 = l2 ∧ P) :=
  -- `pre l f` is `andThen (fun _ => some l) f` by definition
  PFOn_andThen hO (PFOn_const hl rfl) h

theorem PFOn_tok (hO : Shift O) {a b : Tok} {e1 e2 : Nat → Option (List Tok)} {P : Prop} (h : a = b → PFOn O e1 e2 P) :
    PFOn O (pre [a] e1) (pre [b] e2) (a = b ∧ P) :=
  PFOn_mono (PFOn_pre hO rfl (fun e => h (singleton_inj e))) (fun h => ⟨singleton_inj h.1, h.2⟩)

theorem PFOn_count (hO : Shift O) {n m : Nat} {e1 e2 : Nat → Option (List Tok)} {P : Prop} (h : n = m → PFOn O e1 e2 P) :
    PFOn O (pre [natTok n] e1) (pre [natTok m] e2) P :=
  PFOn_mono (PFOn_tok hO (fun e => h (natTok_inj e))) (fun h => h.2)

theorem PFOn_seqT (hO : Shift O) {α β : Type} {f : α → Nat → Option (List Tok)} {g : β → Nat → Option (List Tok)}
    {P : α → β → Prop} : ∀ (xs : List α) (ys : List β), xs.length = ys.length →
    (∀ x ∈ xs, ∀ y ∈ ys, PFOn O (f x) (g y) (P x y)) → PFOn O (seqT f xs) (seqT g ys) (Pairwise2 P xs ys)
  | [], [], _, _ => PFOn_mono (PFOn_const (n := 0) rfl rfl) (fun _ => trivial)
  | x :: xs, y :: ys, hl, hP => by
    rw [seqT_cons, seqT_cons]
    exact PFOn_andThen hO (hP x List.mem_cons_self y List.mem_cons_self)
      (fun _ => PFOn_seqT hO xs ys (Nat.succ.inj hl)
        (fun a ha b hb => hP a (List.mem_cons_of_mem _ ha) b (List.mem_cons_of_mem _ hb)))

theorem PFOn_head_ne {e1 e2 : Nat → Option (List Tok)} {a b : Tok} {P : Prop}
    (h1 : ∀ p ts, e1 p = some ts → ∃ tl, ts = a :: tl) (h2 : ∀ p ts, e2 p = some ts → ∃ tl, ts = b :: tl) (hne : a ≠ b) :
    PFOn O e1 e2 P := by
  intro p1 p2 ts1 ts2 r1 r2 _ ha hb he
  obtain ⟨t1, rfl⟩ := h1 _ _ ha
  obtain ⟨t2, rfl⟩ := h2 _ _ hb
  exact absurd (List.cons.inj he).1 hne

end

theorem PF_mono {e1 e2 : Nat → Option (List Tok)} {P Q : Prop} (h : PF e1 e2 P) (hpq : P → Q) : PF e1 e2 Q :=
  PF_iff_PFOn.2 (PFOn_mono (PF_iff_PFOn.1 h) hpq)

theorem PF_andThen' {f1 f2 g1 g2 : Nat → Option (List Tok)} {P Q : Prop} (hf : PF f1 f2 P) (hg : P → PF g1 g2 Q) :
    PF (andThen f1 g1) (andThen f2 g2) (P ∧ Q) :=
  PF_iff_PFOn.2 (PFOn_andThen shift_true (PF_iff_PFOn.1 hf) (fun h => PF_iff_PFOn.1 (hg h)))

/-- `Const = string | number | boolean | null` -/
def isConst : JsVal → Bool
  | .null | .str _ | .num _ | .bool _ => true
  | _ => false

/-- closed Runtype trees as the JavaScript objects can be: no named reference, distinct property names and distinct
discriminator tags (they are keys of a record), `AnyOfConsts` members that are `Const` values -/
inductive Good : RT → Prop
  | typeof (t : String) : Good (.typeof t)
  | any : Good .any
  | nullish (d : String) : Good (.nullish d)
  | never : Good .never
  | const (v : JsVal) : Good (.const v)
  | regex (tpl : Tpl) (d : String) : Good (.regex tpl d)
  | date : Good .date
  | bigint : Good .bigint
  | typed (c : String) : Good (.typed c)
  | strfmt (fs : List String) : Good (.strfmt fs)
  | numfmt (fs : List String) : Good (.numfmt fs)
  | consts (vs : List JsVal) : (∀ v ∈ vs, isConst v = true) → Good (.consts vs)
  | tuple (ps : List RT) (rest : Option RT) : (∀ t ∈ ps, Good t) → (∀ r, rest = some r → Good r) → Good (.tuple ps rest)
  | allOf (ts : List RT) : (∀ t ∈ ts, Good t) → Good (.allOf ts)
  | anyOf (ts : List RT) : (∀ t ∈ ts, Good t) → Good (.anyOf ts)
  | array (t : RT) : Good t → Good (.array t)
  | map (k v : RT) : Good k → Good v → Good (.map k v)
  | set (t : RT) : Good t → Good (.set t)
  | disc (schemas : List RT) (key : String) (mapping sm : List (String × RT)) :
      (mapping.map (·.1)).Nodup → (∀ p ∈ mapping, Good p.2) → (∀ t ∈ schemas, Good t) →
      Good (.disc schemas key mapping sm)
  | optional (t : RT) : Good t → Good (.optional t)
  | object (props : List (String × RT)) (ix : List (RT × RT)) :
      (props.map (·.1)).Nodup → (∀ p ∈ props, Good p.2) → (∀ p ∈ ix, Good p.1) → (∀ p ∈ ix, Good p.2) →
      Good (.object props ix)
  | described (d : String) (t : RT) : Good t → Good (.described d t)

/-- what the JavaScript regular expression engine guarantees and the model cannot prove about itself: the source text
of the expression decides what it matches -/
def SourceDeterminesMatch : Prop :=
  ∀ t1 t2 : Tpl, regexSource t1 = regexSource t2 → ∀ s, Tpl.test t1 s = Tpl.test t2 s

/-! ## the semantic half: congruence of `validate` -/

theorem agree_ok {a b : Bool} (h : a = b) : Agree (.ok a) (.ok b) := by
  intro b1 b2 h1 h2
  injection h1 with h1; injection h2 with h2
  rw [← h1, ← h2, h]

theorem agree_nofuel_l (r : Res Bool) : Agree .nofuel r := by intro b1 b2 h; cases h
theorem agree_nofuel_r (r : Res Bool) : Agree r .nofuel := by intro b1 b2 _ h; cases h
theorem agree_throw_l (c : String) (r : Res Bool) : Agree (.throw c) r := by intro b1 b2 h; cases h
theorem agree_throw_r (c : String) (r : Res Bool) : Agree r (.throw c) := by intro b1 b2 _ h; cases h

theorem agree_seq : ∀ {a1 a2 k1 k2 : Res Bool}, Agree a1 a2 → Agree k1 k2 →
    Agree (match a1 with | .ok true => k1 | r => r) (match a2 with | .ok true => k2 | r => r) := by
  intro a1 a2 k1 k2 ha hk
  cases a1 with
  | nofuel => exact agree_nofuel_l _
  | throw c => exact agree_throw_l c _
  | ok b1 =>
    cases a2 with
    | nofuel => exact agree_nofuel_r _
    | throw c => exact agree_throw_r c _
    | ok b2 =>
      have hb : b1 = b2 := ha b1 b2 rfl rfl
      subst hb
      cases b1
      · exact agree_ok rfl
      · exact hk

theorem agree_ite {c1 c2 : Prop} [Decidable c1] [Decidable c2] {a1 a2 b1 b2 : Res Bool} (hc : c1 ↔ c2) (ha : Agree a1 a2)
    (hb : Agree b1 b2) : Agree (if c1 then a1 else b1) (if c2 then a2 else b2) := by
  by_cases h : c1
  · rw [if_pos h, if_pos (hc.1 h)]; exact ha
  · rw [if_neg h, if_neg (fun h2 => h (hc.2 h2))]; exact hb

theorem semAt_of_semEq {env1 env2 : Env} {rt1 rt2 : RT} (h : SemEq env1 env2 rt1 rt2) (m1 m2 : Nat) :
    C13R.SemAt env1 env2 m1 m2 rt1 rt2 := fun strict x => h strict m1 m2 x

theorem semAt_zero_l {env1 env2 : Env} {rt1 rt2 : RT} (m2 : Nat) : C13R.SemAt env1 env2 0 m2 rt1 rt2 := by
  intro strict x; rw [validate_zero]; exact agree_nofuel_l _

theorem semAt_zero_r {env1 env2 : Env} {rt1 rt2 : RT} (m1 : Nat) : C13R.SemAt env1 env2 m1 0 rt1 rt2 := by
  intro strict x; rw [validate_zero env2]; exact agree_nofuel_r _

theorem semEq_of_semAt {env1 env2 : Env} {rt1 rt2 : RT} (h : ∀ m1 m2, C13R.SemAt env1 env2 (m1+1) (m2+1) rt1 rt2) :
    SemEq env1 env2 rt1 rt2 := by
  intro strict m1 m2 x
  cases m1 with
  | zero => exact semAt_zero_l m2 strict x
  | succ m1 =>
    cases m2 with
    | zero => exact semAt_zero_r _ strict x
    | succ m2 => exact h m1 m2 strict x

theorem allShort_agree {α β : Type} {f : α → Res Bool} {g : β → Res Bool} {l1 : List α} {l2 : List β}
    (h12 : ∀ x ∈ l1, ∃ y ∈ l2, Agree (f x) (g y)) (h21 : ∀ y ∈ l2, ∃ x ∈ l1, Agree (f x) (g y)) :
    Agree (allShort f l1) (allShort g l2) := by
  intro b1 b2 h1 h2
  cases b1 <;> cases b2
  · rfl
  · obtain ⟨x, hx, hfx⟩ := allShort_false _ _ h1
    obtain ⟨y, hy, hag⟩ := h12 x hx
    exact hag _ _ hfx ((allShort_true_iff _ _).1 h2 y hy)
  · obtain ⟨y, hy, hgy⟩ := allShort_false _ _ h2
    obtain ⟨x, hx, hag⟩ := h21 y hy
    exact hag _ _ ((allShort_true_iff _ _).1 h1 x hx) hgy
  · rfl

theorem anyShort_agree {α β : Type} {f : α → Res Bool} {g : β → Res Bool} {l1 : List α} {l2 : List β}
    (h12 : ∀ x ∈ l1, ∃ y ∈ l2, Agree (f x) (g y)) (h21 : ∀ y ∈ l2, ∃ x ∈ l1, Agree (f x) (g y)) :
    Agree (anyShort f l1) (anyShort g l2) := by
  intro b1 b2 h1 h2
  cases b1 <;> cases b2
  · rfl
  · obtain ⟨y, hy, hgy⟩ := anyShort_true _ _ h2
    obtain ⟨x, hx, hag⟩ := h21 y hy
    exact hag _ _ ((anyShort_false_iff _ _).1 h1 x hx) hgy
  · obtain ⟨x, hx, hfx⟩ := anyShort_true _ _ h1
    obtain ⟨y, hy, hag⟩ := h12 x hx
    exact hag _ _ hfx ((anyShort_false_iff _ _).1 h2 y hy)
  · rfl

theorem allShort_agree_same {α : Type} {f g : α → Res Bool} (l : List α) (h : ∀ x, Agree (f x) (g x)) :
    Agree (allShort f l) (allShort g l) :=
  allShort_agree (fun x hx => ⟨x, hx, h x⟩) (fun x hx => ⟨x, hx, h x⟩)

theorem allShort_agree_p2 {α β : Type} {f : α → Res Bool} {g : β → Res Bool} {l1 : List α} {l2 : List β}
    (h : Pairwise2 (fun x y => Agree (f x) (g y)) l1 l2) : Agree (allShort f l1) (allShort g l2) :=
  allShort_agree (pairwise2_left h) (pairwise2_right h)

theorem anyShort_agree_p2 {α β : Type} {f : α → Res Bool} {g : β → Res Bool} {l1 : List α} {l2 : List β}
    (h : Pairwise2 (fun x y => Agree (f x) (g y)) l1 l2) : Agree (anyShort f l1) (anyShort g l2) :=
  anyShort_agree (pairwise2_left h) (pairwise2_right h)

theorem sortedProps_perm (l : List (String × RT)) : (sortedProps l).Perm l := C10.sortBy_perm _ l

theorem find_key_of_mem : ∀ {l : List (String × RT)}, (l.map (·.1)).Nodup → ∀ {p : String × RT}, p ∈ l →
    l.find? (fun q => q.1 == p.1) = some p
  | x :: xs, hn, p, hp => by
    rw [List.find?_cons]
    rcases List.mem_cons.1 hp with rfl | hp
    · rw [beq_self_eq_true]
    · have hne : x.1 ≠ p.1 := fun e => (List.nodup_cons.1 hn).1 (List.mem_map.2 ⟨p, hp, e.symm⟩)
      rw [beq_false_of_ne hne]
      exact find_key_of_mem (List.nodup_cons.1 hn).2 hp

theorem sortedProps_length (l : List (String × RT)) : (sortedProps l).length = l.length := (sortedProps_perm l).length_eq

theorem partners_of_sorted {R : String × RT → String × RT → Prop} {l1 l2 : List (String × RT)}
    (h : Pairwise2 R (sortedProps l1) (sortedProps l2)) : (∀ p ∈ l1, ∃ q ∈ l2, R p q) ∧ (∀ q ∈ l2, ∃ p ∈ l1, R p q) := by
  refine ⟨fun p hp => ?_, fun q hq => ?_⟩
  · obtain ⟨q, hq, hr⟩ := pairwise2_left h p ((sortedProps_perm l1).mem_iff.2 hp)
    exact ⟨q, (sortedProps_perm l2).mem_iff.1 hq, hr⟩
  · obtain ⟨p, hp, hr⟩ := pairwise2_right h q ((sortedProps_perm l2).mem_iff.2 hq)
    exact ⟨p, (sortedProps_perm l1).mem_iff.1 hp, hr⟩

section semAt
variable {env1 env2 : Env} {m1 m2 : Nat}

theorem at_described_l {d : String} {t1 rt2 : RT} (h : C13R.SemAt env1 env2 m1 m2 t1 rt2) :
    C13R.SemAt env1 env2 (m1+1) m2 (.described d t1) rt2 := h  -- `validate (m+1) (.described d t)` is `validate m t` by definition

theorem at_described_r {d : String} {rt1 t2 : RT} (h : C13R.SemAt env1 env2 m1 m2 rt1 t2) :
    C13R.SemAt env1 env2 m1 (m2+1) rt1 (.described d t2) := h

/-- `R` lifted to optional trees: the rest type of a tuple, the case `lookupMapping` finds -/
inductive Rest (R : RT → RT → Prop) : Option RT → Option RT → Prop
  | neither : Rest R none none
  | both {a b : RT} : R a b → Rest R (some a) (some b)

theorem at_tuple {ps1 ps2 : List RT} {r1 r2 : Option RT} (hp : Pairwise2 (C13R.SemAt env1 env2 m1 m2) ps1 ps2)
    (hr : Rest (C13R.SemAt env1 env2 m1 m2) r1 r2) : C13R.SemAt env1 env2 (m1+1) (m2+1) (.tuple ps1 r1) (.tuple ps2 r2) := by
  intro strict x
  dsimp only [validate]
  cases x with
  | arr items =>
    dsimp only
    rw [← pairwise2_length hp]
    refine agree_seq (allShort_agree_p2 (pairwise2_mono (fun a b hab => ?_) (pairwise2_zip ps1 ps2 (List.range ps1.length) hp))) ?_
    · rw [hab.2]
      exact hab.1 strict _
    · cases hr with
      | neither => exact agree_ok rfl
      | both hr => exact allShort_agree_same _ (hr strict)
  | _ => exact agree_ok rfl

theorem lookupMapping_rel {R : RT → RT → Prop} {mp1 mp2 : List (String × RT)} (hn2 : (mp2.map (·.1)).Nodup)
    (hp : Pairwise2 (fun p q => p.1 = q.1 ∧ R p.2 q.2) (sortedProps mp1) (sortedProps mp2)) (d : JsVal) :
    Rest R (lookupMapping mp1 d) (lookupMapping mp2 d) := by
  obtain ⟨h12, h21⟩ := partners_of_sorted hp
  cases d with
  | str k =>
    dsimp only [lookupMapping]
    cases h1 : mp1.find? (fun p => p.1 == k) with
    | none =>
      cases h2 : mp2.find? (fun p => p.1 == k) with
      | none => exact .neither
      | some q =>
        -- the partner of `q` in the first mapping would have been found
        obtain ⟨p, hp1, hk, _⟩ := h21 q (List.mem_of_find?_eq_some h2)
        have hq : q.1 = k := by simpa using List.find?_some h2
        exact absurd (hk.trans hq) (by simpa using List.find?_eq_none.1 h1 p hp1)
    | some p =>
      obtain ⟨q, hq2, hk, hr⟩ := h12 p (List.mem_of_find?_eq_some h1)
      have hpk : p.1 = k := by simpa using List.find?_some h1
      rw [← hpk, hk, find_key_of_mem hn2 hq2]
      exact .both hr
  | _ => exact .neither

theorem at_disc {ss1 ss2 : List RT} {key : String} {mp1 mp2 sm1 sm2 : List (String × RT)}
    (hn2 : (mp2.map (·.1)).Nodup)
    (hp : Pairwise2 (fun p q => p.1 = q.1 ∧ C13R.SemAt env1 env2 m1 m2 p.2 q.2) (sortedProps mp1) (sortedProps mp2)) :
    C13R.SemAt env1 env2 (m1+1) (m2+1) (.disc ss1 key mp1 sm1) (.disc ss2 key mp2 sm2) := by
  intro strict x
  dsimp only [validate]
  refine agree_ite Iff.rfl (agree_ok rfl) (agree_ite Iff.rfl (agree_ok rfl) ?_)
  have h := lookupMapping_rel hn2 hp (x.getProp key)
  generalize lookupMapping mp1 (x.getProp key) = o1, lookupMapping mp2 (x.getProp key) = o2 at h ⊢
  cases h with
  | neither => exact agree_ok rfl
  | both h => exact h strict x

theorem at_object {props1 props2 : List (String × RT)} {ix1 ix2 : List (RT × RT)}
    (hp : Pairwise2 (fun p q => p.1 = q.1 ∧ C13R.SemAt env1 env2 m1 m2 p.2 q.2) (sortedProps props1) (sortedProps props2))
    (hi : Pairwise2 (fun (p q : RT × RT) => C13R.SemAt env1 env2 m1 m2 p.1 q.1 ∧ C13R.SemAt env1 env2 m1 m2 p.2 q.2) ix1 ix2) :
    C13R.SemAt env1 env2 (m1+1) (m2+1) (.object props1 ix1) (.object props2 ix2) := by
  -- acceptance does not depend on the order of the declared properties: each has a partner with the same key
  obtain ⟨h12, h21⟩ := partners_of_sorted hp
  intro strict x
  have hfilter : x.ownKeys.filter (fun k => !(props1.map (·.1)).contains k) =
      x.ownKeys.filter (fun k => !(props2.map (·.1)).contains k) := by
    apply List.filter_congr
    intro k _
    rw [Bool.eq_iff_iff]
    simp only [Bool.not_eq_true', ← Bool.not_eq_true, List.contains_iff_mem, List.mem_map]
    refine not_congr ⟨?_, ?_⟩
    · rintro ⟨p, hp1, rfl⟩
      obtain ⟨q, hq, hr⟩ := h12 p hp1
      exact ⟨q, hq, hr.1.symm⟩
    · rintro ⟨q, hq, rfl⟩
      obtain ⟨p, hp1, hr⟩ := h21 q hq
      exact ⟨p, hp1, hr.1⟩
  have hix : ∀ k, Agree (indexedAccepts (validate env1 strict m1) ix1 x k) (indexedAccepts (validate env2 strict m2) ix2 x k) :=
    fun k => anyShort_agree_p2 (pairwise2_mono (fun a b hab => agree_seq (hab.1 strict _) (hab.2 strict _)) hi)
  dsimp only [validate]
  refine agree_ite Iff.rfl (agree_ok rfl) (agree_seq ?_ ?_)
  · refine allShort_agree (fun p hp1 => ?_) (fun q hq => ?_)
    · obtain ⟨q, hq, hr⟩ := h12 p hp1
      exact ⟨q, hq, hr.1 ▸ hr.2 strict _⟩
    · obtain ⟨p, hp1, hr⟩ := h21 q hq
      exact ⟨p, hp1, hr.1 ▸ hr.2 strict _⟩
  · rw [hfilter, pairwise2_length hi]
    exact agree_ite Iff.rfl (allShort_agree_same _ hix) (agree_ite Iff.rfl (agree_ok rfl) (agree_ok rfl))

end semAt

theorem sem_described_l {env1 env2 : Env} {d : String} {t1 rt2 : RT} (h : SemEq env1 env2 t1 rt2) :
    SemEq env1 env2 (.described d t1) rt2 :=
  semEq_of_semAt fun m1 m2 => at_described_l (semAt_of_semEq h m1 (m2+1))

theorem sem_described_r {env1 env2 : Env} {d : String} {rt1 t2 : RT} (h : SemEq env1 env2 rt1 t2) :
    SemEq env1 env2 rt1 (.described d t2) :=
  semEq_of_semAt fun m1 m2 => at_described_r (semAt_of_semEq h (m1+1) m2)

def valOf : Tok → JsVal
  | .str s => .str s
  | .num c => .num c
  | .bool b => .bool b
  | _ => .null

/-- `null` and `undefined` are written as `null`, every other constant as a type tag and a payload that determines it -/
theorem constToks_inv {v : JsVal} {c : List Tok} (h : constToks v = some c) :
    (v.isNullish = true ∧ c = [.null]) ∨ (v.isNullish = false ∧ ∃ T x, c = [.tag T, x] ∧ valOf x = v) := by
  cases v with
  | null | undef => cases h; exact .inl ⟨rfl, rfl⟩
  | str | num | bool => cases h; exact .inr ⟨rfl, _, _, rfl, rfl⟩
  | _ => cases h

theorem constToks_pf {v1 v2 : JsVal} {c1 c2 r1 r2 : List Tok} (h1 : constToks v1 = some c1) (h2 : constToks v2 = some c2)
    (he : c1 ++ r1 = c2 ++ r2) : c1 = c2 ∧ r1 = r2 := by
  rcases constToks_inv h1 with ⟨_, rfl⟩ | ⟨_, T1, x1, rfl, _⟩ <;> rcases constToks_inv h2 with ⟨_, rfl⟩ | ⟨_, T2, x2, rfl, _⟩
  · exact List.append_inj he rfl
  · cases he
  · cases he
  · exact List.append_inj he rfl

def SameToks (v w : JsVal) : Prop := ∃ c, constToks v = some c ∧ constToks w = some c

theorem pf_constToks {O : Nat → Nat → Prop} (v w : JsVal) : PFOn O (fun _ => constToks v) (fun _ => constToks w) (SameToks v w) := by
  intro _ _ c1 c2 r1 r2 _ hv hw he
  obtain ⟨rfl, hr⟩ := constToks_pf hv hw he
  exact ⟨rfl, hr, c1, hv, hw⟩

theorem sameToks_cases {v w : JsVal} (h : SameToks v w) : (v.isNullish = true ∧ w.isNullish = true) ∨ v = w := by
  obtain ⟨c, hv, hw⟩ := h
  rcases constToks_inv hv with ⟨nv, rfl⟩ | ⟨_, T, x, rfl, rfl⟩ <;> rcases constToks_inv hw with ⟨nw, e⟩ | ⟨_, T', x', e, rfl⟩
  · exact .inl ⟨nv, nw⟩
  · cases e
  · cases e
  · cases e; exact .inr rfl

theorem constToks_inj {v1 v2 : JsVal} (hc1 : isConst v1 = true) (hc2 : isConst v2 = true) (h : SameToks v1 v2) : v1 = v2 := by
  rcases sameToks_cases h with ⟨n1, n2⟩ | e
  · cases v1 with
    | null => cases v2 with
      | null => rfl
      | undef => cases hc2
      | _ => cases n2
    | undef => cases hc1
    | _ => cases n1
  · exact e

theorem eq_of_sameToks : ∀ {l1 l2 : List JsVal}, (∀ v ∈ l1, isConst v = true) → (∀ v ∈ l2, isConst v = true) →
    Pairwise2 SameToks l1 l2 → l1 = l2
  | [], [], _, _, _ => rfl
  | v :: vs, w :: ws, h1, h2, h => by
    rw [constToks_inj (h1 v List.mem_cons_self) (h2 w List.mem_cons_self) h.1,
      eq_of_sameToks (fun x hx => h1 x (List.mem_cons_of_mem _ hx)) (fun x hx => h2 x (List.mem_cons_of_mem _ hx)) h.2]

theorem mapMO_length {α β : Type} {f : α → Option β} : ∀ {l : List α} {t : List β}, mapMO f l = some t → t.length = l.length := by
  intro l
  induction l with
  | nil => intro t h; simp [mapMO] at h; subst h; rfl
  | cons x xs ih =>
    intro t h
    simp only [mapMO] at h
    cases hx : f x with
    | none => simp [hx] at h
    | some y =>
      cases hxs : mapMO f xs with
      | none => simp [hx, hxs] at h
      | some ys => simp [hx, hxs] at h; subst h; simp [ih hxs]

theorem sortedConsts_perm (vs : List JsVal) : (sortedConsts vs).Perm vs := C10.sortBy_perm _ vs

theorem perm_of_sortBy_eq {α : Type} {le : α → α → Bool} {l1 l2 : List α} (h : sortBy le l1 = sortBy le l2) : l1.Perm l2 :=
  ((C10.sortBy_perm le l1).symm.trans (h ▸ List.Perm.refl _)).trans (C10.sortBy_perm le l2)

theorem fmtAll_eq_all {f : String → Option Bool} : ∀ (l : List String), fmtAll f l = l.all (fun n => f n == some true)
  | [] => rfl
  | n :: ns => by
    rw [fmtAll, List.all_cons, ← fmtAll_eq_all ns]
    cases f n with
    | none => rfl
    | some b => cases b <;> rfl

theorem fmtAll_perm {f : String → Option Bool} {l1 l2 : List String} (hp : l1.Perm l2) : fmtAll f l1 = fmtAll f l2 := by
  rw [fmtAll_eq_all, fmtAll_eq_all, hp.all_eq]

theorem sortStrings_perm (l : List String) : (JsVal.sortStrings l).Perm l := C10.sortBy_perm _ l

/-! ## the syntactic half: splitting a stream into the children's streams -/

def tagOf : RT → String
  | .typeof _ => "typeof" | .any => "any" | .nullish _ => "nullish" | .never => "never" | .const _ => "const"
  | .regex _ _ => "regex" | .date => "date" | .bigint => "bigint" | .typed _ => "typedArray"
  | .strfmt _ => "stringWithFormat" | .numfmt _ => "numberWithFormat" | .consts _ => "anyOfConsts"
  | .tuple _ _ => "tuple" | .allOf _ => "allOf" | .anyOf _ => "anyOf" | .array _ => "array" | .map _ _ => "map"
  | .set _ => "set" | .disc _ _ _ _ => "anyOfDiscriminated" | .optional _ => "optionalField" | .object _ _ => "object"
  | .ref _ => "" | .described _ _ => ""

def structural : RT → Bool
  | .ref _ | .described _ _ => false
  | _ => true

/-- in the order of the constructors of `RT` -/
def tags : List String :=
  ["typeof", "any", "nullish", "never", "const", "regex", "date", "bigint", "typedArray", "stringWithFormat",
   "numberWithFormat", "anyOfConsts", "tuple", "allOf", "anyOf", "array", "map", "set", "anyOfDiscriminated",
   "optionalField", "object"]

theorem tags_nodup : ("cycleRef" :: tags).Nodup := by decide +kernel

theorem tags_ctorIdx {rt : RT} (hs : structural rt = true) : tags[rt.ctorIdx]? = some (tagOf rt) := by
  cases rt with
  | ref | described => cases hs
  | _ => rfl

theorem ctorIdx_of_tagOf {rt1 rt2 : RT} (hs1 : structural rt1 = true) (hs2 : structural rt2 = true) (h : tagOf rt1 = tagOf rt2) :
    rt1.ctorIdx = rt2.ctorIdx := by
  have h1 := tags_ctorIdx hs1
  have h2 := tags_ctorIdx hs2
  have hlt : rt1.ctorIdx < tags.length := (List.getElem?_eq_some_iff.1 h1).1
  exact (List.getElem?_inj hlt (List.nodup_cons.1 tags_nodup).2).1 (by rw [h1, h2, h])

theorem tagOf_ne_cycleRef {rt : RT} (hs : structural rt = true) : tagOf rt ≠ "cycleRef" :=
  fun h => (List.nodup_cons.1 tags_nodup).1 (h ▸ List.mem_of_getElem? (tags_ctorIdx hs))

def restEnc (env : Env) (n : Nat) (act : List (String × Nat)) : Option RT → Nat → Option (List Tok)
  | none => fun _ => some [.tag "noRest"]
  | some r => pre [.tag "rest"] (fun p => h256 env n r act p)

/-- what a structural node writes after its tag, the children encoded with fuel `n` -/
def body (env : Env) (n : Nat) (act : List (String × Nat)) (rt : RT) : Nat → Option (List Tok) :=
  let h (t : RT) (p : Nat) := h256 env n t act p
  match rt with
  | .typeof t => fun _ => some [.str t]
  | .any | .nullish _ | .never | .date | .bigint => fun _ => some []
  | .const v => fun _ => constToks v
  | .regex tpl _ => fun _ => some [.str (regexSource tpl), .str ""]
  | .typed c => fun _ => some [.str c]
  | .strfmt fs | .numfmt fs => fun _ => some (natTok fs.length :: (JsVal.sortStrings fs).map .str)
  | .consts vs => pre [natTok vs.length] (seqT (fun v _ => constToks v) (sortedConsts vs))
  | .tuple ps rest => pre [natTok ps.length] (andThen (seqT h ps) (restEnc env n act rest))
  | .allOf ts | .anyOf ts => pre [natTok ts.length] (seqT h ts)
  | .array t | .set t | .optional t => h t
  | .map k v => andThen (h k) (h v)
  | .disc ss key m _ =>
    pre [.str key] (pre [natTok ss.length]
      (andThen (seqT h ss) (pre [natTok m.length] (seqT (fun (p : String × RT) => pre [.str p.1] (h p.2)) (sortedProps m)))))
  | .object props ix =>
    pre [natTok props.length]
      (andThen (seqT (fun (p : String × RT) => pre [.str p.1, .bool (isOptionalField p.2)] (h p.2)) (sortedProps props))
        (pre [natTok ix.length] (seqT (fun (p : RT × RT) => andThen (h p.1) (h p.2)) ix)))
  | .ref _ | .described _ _ => fun _ => none

theorem pre_cons (t u : Tok) (l : List Tok) (f : Nat → Option (List Tok)) : pre (t :: u :: l) f = pre [t] (pre (u :: l) f) := by
  funext p
  simp only [pre, bytesLen, Nat.add_zero, Nat.add_assoc, Option.map_map]
  rfl

theorem seqT_constToks (l : List JsVal) (p : Nat) :
    seqT (fun v _ => constToks v) l p = (mapMO constToks l).map List.flatten := by
  induction l generalizing p with
  | nil => rfl
  | cons v vs ih =>
    simp only [seqT, mapMO]
    cases constToks v with
    | none => rfl
    | some c => simp only [ih]; cases mapMO constToks vs <;> rfl

theorem h256_struct (env : Env) (n : Nat) {rt : RT} (act : List (String × Nat)) (hs : structural rt = true) :
    h256 env (n+1) rt act = pre [.tag (tagOf rt)] (body env n act rt) := by
  funext p
  cases rt with
  | ref | described => cases hs
  | consts vs => dsimp only [h256, body, pre]; rw [seqT_constToks, Option.map_map, Option.map_map]; rfl
  | tuple ps rest => cases rest <;> (dsimp only [h256, body, tagOf, restEnc]; rw [pre_cons])
  | disc ss key m sm => dsimp only [h256, body, tagOf]; rw [pre_cons, pre_cons]
  | object props ix => dsimp only [h256, body, tagOf]; rw [pre_cons]
  | allOf ts | anyOf ts => dsimp only [h256, body, tagOf]; rw [pre_cons]
  | _ => rfl

theorem h256_head {env : Env} {n : Nat} {rt : RT} {act : List (String × Nat)} {p : Nat} {ts : List Tok}
    (hs : structural rt = true) (h : h256 env (n+1) rt act p = some ts) : ∃ tl, ts = .tag (tagOf rt) :: tl := by
  rw [h256_struct _ _ _ hs] at h
  exact pre_head h

def Kids (C : RT → Prop) : RT → Prop
  | .tuple ps rest => (∀ t ∈ ps, C t) ∧ (∀ r, rest = some r → C r)
  | .allOf ts | .anyOf ts => ∀ t ∈ ts, C t
  | .array t | .set t | .optional t => C t
  | .map k v => C k ∧ C v
  | .disc ss _ m _ => (∀ t ∈ ss, C t) ∧ (∀ p ∈ m, C p.2)
  | .object props ix => (∀ p ∈ props, C p.2) ∧ (∀ p ∈ ix, C p.1) ∧ (∀ p ∈ ix, C p.2)
  | _ => True

theorem Kids.of_forall {C : RT → Prop} (h : ∀ c, C c) (rt : RT) : Kids C rt := by
  cases rt with
  | tuple | disc => exact ⟨fun _ _ => h _, fun _ _ => h _⟩
  | map => exact ⟨h _, h _⟩
  | allOf | anyOf => exact fun _ _ => h _
  | array | set | optional => exact h _
  | object => exact ⟨fun _ _ => h _, fun _ _ => h _, fun _ _ => h _⟩
  | _ => trivial

/-- same constructor, same scalars in the stream, children related by `R` one by one (properties and discriminator cases
sorted by key, as the stream has them). `disc` relates the cases only: `validate` never reads `schemas`. -/
inductive Shape (R : RT → RT → Prop) : RT → RT → Prop
  | typeof (t : String) : Shape R (.typeof t) (.typeof t)
  | any : Shape R .any .any
  | nullish (d d' : String) : Shape R (.nullish d) (.nullish d')
  | never : Shape R .never .never
  | const {v w : JsVal} : SameToks v w → Shape R (.const v) (.const w)
  | regex {t t' : Tpl} (d d' : String) : regexSource t = regexSource t' → Shape R (.regex t d) (.regex t' d')
  | date : Shape R .date .date
  | bigint : Shape R .bigint .bigint
  | typed (c : String) : Shape R (.typed c) (.typed c)
  | strfmt {fs fs' : List String} : JsVal.sortStrings fs = JsVal.sortStrings fs' → Shape R (.strfmt fs) (.strfmt fs')
  | numfmt {fs fs' : List String} : JsVal.sortStrings fs = JsVal.sortStrings fs' → Shape R (.numfmt fs) (.numfmt fs')
  | consts {vs ws : List JsVal} : Pairwise2 SameToks (sortedConsts vs) (sortedConsts ws) → Shape R (.consts vs) (.consts ws)
  | tuple {ps ps' : List RT} {r r' : Option RT} : Pairwise2 R ps ps' → Rest R r r' → Shape R (.tuple ps r) (.tuple ps' r')
  | allOf {ts ts' : List RT} : Pairwise2 R ts ts' → Shape R (.allOf ts) (.allOf ts')
  | anyOf {ts ts' : List RT} : Pairwise2 R ts ts' → Shape R (.anyOf ts) (.anyOf ts')
  | array {t t' : RT} : R t t' → Shape R (.array t) (.array t')
  | map {k k' v v' : RT} : R k k' → R v v' → Shape R (.map k v) (.map k' v')
  | set {t t' : RT} : R t t' → Shape R (.set t) (.set t')
  | disc {ss ss' : List RT} (key : String) {m m' : List (String × RT)} (sm sm' : List (String × RT)) :
      Pairwise2 (fun p q => p.1 = q.1 ∧ R p.2 q.2) (sortedProps m) (sortedProps m') → Shape R (.disc ss key m sm) (.disc ss' key m' sm')
  | optional {t t' : RT} : R t t' → Shape R (.optional t) (.optional t')
  | object {ps ps' : List (String × RT)} {ix ix' : List (RT × RT)} :
      Pairwise2 (fun p q => p.1 = q.1 ∧ R p.2 q.2) (sortedProps ps) (sortedProps ps') →
      Pairwise2 (fun (p q : RT × RT) => R p.1 q.1 ∧ R p.2 q.2) ix ix' → Shape R (.object ps ix) (.object ps' ix')

theorem bytesLen_pos (t : Tok) (l : List Tok) : 0 < bytesLen (t :: l) :=
  Nat.add_pos_left (List.length_pos_iff.2 (C13.bytes_ne_nil t)) _

theorem pf_fmts {O : Nat → Nat → Prop} (fs1 fs2 : List String) :
    PFOn O (fun _ => some (natTok fs1.length :: (JsVal.sortStrings fs1).map .str))
      (fun _ => some (natTok fs2.length :: (JsVal.sortStrings fs2).map .str)) (JsVal.sortStrings fs1 = JsVal.sortStrings fs2) := by
  intro p1 p2 ts1 ts2 r1 r2 _ h1 h2 he
  injection h1 with h1; injection h2 with h2
  subst h1; subst h2
  have hn : fs1.length = fs2.length := natTok_inj (List.cons.inj he).1
  obtain ⟨hm, hr⟩ := List.append_inj he (by
    simp only [List.length_cons, List.length_map, (sortStrings_perm fs1).length_eq, (sortStrings_perm fs2).length_eq, hn])
  exact ⟨hm, hr, (List.map_inj_right fun _ _ => Tok.str.inj).1 (List.cons.inj hm).2⟩

theorem sortedProps_kids {C : RT → Prop} {l : List (String × RT)} (h : ∀ p ∈ l, C p.2) : ∀ p ∈ sortedProps l, C p.2 :=
  fun p hp => h p ((sortedProps_perm l).mem_iff.1 hp)

/-! Every lemma of this section takes `hO` and `ihc` first: the offset pairs `O` at which children may start are closed under
shifts, and the streams of two children (of the classes `C1`, `C2`) are self-delimiting there and establish `R`. -/
section shape
variable {env1 env2 : Env} {n1 n2 : Nat} {act1 act2 : List (String × Nat)} {O : Nat → Nat → Prop} {C1 C2 : RT → Prop}
  {R : RT → RT → Prop} (hO : Shift O) (ihc : ∀ c1 c2, C1 c1 → C2 c2 → PFOn O (h256 env1 n1 c1 act1) (h256 env2 n2 c2 act2) (R c1 c2))
include hO ihc

theorem pf_kids {ts1 ts2 : List RT} (hl : ts1.length = ts2.length) (hg1 : ∀ t ∈ ts1, C1 t) (hg2 : ∀ t ∈ ts2, C2 t) :
    PFOn O (seqT (fun t p => h256 env1 n1 t act1 p) ts1) (seqT (fun t p => h256 env2 n2 t act2 p) ts2) (Pairwise2 R ts1 ts2) :=
  PFOn_seqT hO ts1 ts2 hl (fun x hx y hy => ihc x y (hg1 x hx) (hg2 y hy))

theorem pf_rest {r1 r2 : Option RT} (hg1 : ∀ r, r1 = some r → C1 r) (hg2 : ∀ r, r2 = some r → C2 r) :
    PFOn O (restEnc env1 n1 act1 r1) (restEnc env2 n2 act2 r2) (Rest R r1 r2) := by
  cases r1 <;> cases r2
  · exact PFOn_mono (PFOn_const (n := 1) rfl rfl) (fun _ => .neither)
  · exact PFOn_head_ne (a := .tag "noRest") (b := .tag "rest") (fun _ _ h => ⟨[], (Option.some.inj h).symm⟩) (fun _ _ h => pre_head h)
      (by decide)
  · exact PFOn_head_ne (a := .tag "rest") (b := .tag "noRest") (fun _ _ h => pre_head h) (fun _ _ h => ⟨[], (Option.some.inj h).symm⟩)
      (by decide)
  · exact PFOn_mono (PFOn_tok hO (fun _ => ihc _ _ (hg1 _ rfl) (hg2 _ rfl))) (fun h => .both h.2)

/-- `k x`: the key tokens in front of a declared property or a discriminator case -/
theorem pf_entries {k1 k2 : String × RT → List Tok} (hk : ∀ x y, (k1 x).length = (k2 y).length) (hinj : ∀ x y, k1 x = k2 y → x.1 = y.1)
    {m1 m2 : List (String × RT)} (hl : m1.length = m2.length) (hg1 : ∀ p ∈ m1, C1 p.2) (hg2 : ∀ p ∈ m2, C2 p.2) :
    PFOn O (seqT (fun x => pre (k1 x) (fun q => h256 env1 n1 x.2 act1 q)) (sortedProps m1))
      (seqT (fun y => pre (k2 y) (fun q => h256 env2 n2 y.2 act2 q)) (sortedProps m2))
      (Pairwise2 (fun p q => p.1 = q.1 ∧ R p.2 q.2) (sortedProps m1) (sortedProps m2)) :=
  PFOn_seqT hO _ _ (by rw [sortedProps_length, sortedProps_length, hl])
    (fun x hx y hy => PFOn_mono (PFOn_pre hO (hk x y) (fun _ => ihc x.2 y.2 (sortedProps_kids hg1 x hx) (sortedProps_kids hg2 y hy)))
      (fun h => ⟨hinj x y h.1, h.2⟩))

theorem pf_body {rt1 rt2 : RT} (hs1 : structural rt1 = true) (hs2 : structural rt2 = true) (k1 : Kids C1 rt1) (k2 : Kids C2 rt2)
    (htag : tagOf rt1 = tagOf rt2) : PFOn O (body env1 n1 act1 rt1) (body env2 n2 act2 rt2) (Shape R rt1 rt2) := by
  -- equal tags: `rt2` is built with the constructor of `rt1`; `RT.<ctor>.elim` then takes it apart
  have hi : rt2.ctorIdx = rt1.ctorIdx := (ctorIdx_of_tagOf hs1 hs2 htag).symm
  clear htag hs2
  revert k2
  cases rt1 with
  | ref _ => cases hs1
  | described _ _ => cases hs1
  | typeof t =>
    refine RT.typeof.elim rt2 hi fun t' _ => ?_
    exact PFOn_mono (PFOn_const (n := 1) rfl rfl) (fun h => Tok.str.inj (singleton_inj h) ▸ .typeof t)
  | any => exact RT.any.elim rt2 hi fun _ => PFOn_mono (PFOn_const (n := 0) rfl rfl) (fun _ => .any)
  | nullish d => exact RT.nullish.elim rt2 hi fun d' _ => PFOn_mono (PFOn_const (n := 0) rfl rfl) (fun _ => .nullish d d')
  | never => exact RT.never.elim rt2 hi fun _ => PFOn_mono (PFOn_const (n := 0) rfl rfl) (fun _ => .never)
  | const v => exact RT.const.elim rt2 hi fun w _ => PFOn_mono (pf_constToks v w) .const
  | regex t d =>
    refine RT.regex.elim rt2 hi fun t' d' _ => ?_
    exact PFOn_mono (PFOn_const (n := 2) rfl rfl) (fun h => .regex d d' (Tok.str.inj (List.cons.inj h).1))
  | date => exact RT.date.elim rt2 hi fun _ => PFOn_mono (PFOn_const (n := 0) rfl rfl) (fun _ => .date)
  | bigint => exact RT.bigint.elim rt2 hi fun _ => PFOn_mono (PFOn_const (n := 0) rfl rfl) (fun _ => .bigint)
  | typed c =>
    refine RT.typed.elim rt2 hi fun c' _ => ?_
    exact PFOn_mono (PFOn_const (n := 1) rfl rfl) (fun h => Tok.str.inj (singleton_inj h) ▸ .typed c)
  | strfmt fs => exact RT.strfmt.elim rt2 hi fun fs' _ => PFOn_mono (pf_fmts fs fs') .strfmt
  | numfmt fs => exact RT.numfmt.elim rt2 hi fun fs' _ => PFOn_mono (pf_fmts fs fs') .numfmt
  | consts vs =>
    refine RT.consts.elim rt2 hi fun ws _ => ?_
    refine PFOn_mono (PFOn_count hO (fun hl => PFOn_seqT hO (sortedConsts vs) (sortedConsts ws) ?_ (fun v _ w _ => pf_constToks v w))) .consts
    rw [(sortedConsts_perm vs).length_eq, (sortedConsts_perm ws).length_eq, hl]
  | tuple ps r =>
    refine RT.tuple.elim rt2 hi fun ps' r' k2 => ?_
    exact PFOn_mono (PFOn_count hO (fun hl => PFOn_andThen hO (pf_kids hO ihc hl k1.1 k2.1) (fun _ => pf_rest hO ihc k1.2 k2.2)))
      (fun h => .tuple h.1 h.2)
  | allOf ts => exact RT.allOf.elim rt2 hi fun ts' k2 => PFOn_mono (PFOn_count hO (fun hl => pf_kids hO ihc hl k1 k2)) .allOf
  | anyOf ts => exact RT.anyOf.elim rt2 hi fun ts' k2 => PFOn_mono (PFOn_count hO (fun hl => pf_kids hO ihc hl k1 k2)) .anyOf
  | array t => exact RT.array.elim rt2 hi fun t' k2 => PFOn_mono (ihc t t' k1 k2) .array
  | map k v =>
    refine RT.map.elim rt2 hi fun k' v' k2 => ?_
    exact PFOn_mono (PFOn_andThen hO (ihc k k' k1.1 k2.1) (fun _ => ihc v v' k1.2 k2.2)) (fun h => .map h.1 h.2)
  | set t => exact RT.set.elim rt2 hi fun t' k2 => PFOn_mono (ihc t t' k1 k2) .set
  | disc ss key m sm =>
    refine RT.disc.elim rt2 hi fun ss' key' m' sm' k2 => ?_
    exact PFOn_mono (PFOn_tok hO (fun _ => PFOn_count hO (fun hl => PFOn_andThen hO (pf_kids hO ihc hl k1.1 k2.1)
      (fun _ => PFOn_count hO (fun hl2 => pf_entries hO ihc (k1 := fun x => [.str x.1]) (k2 := fun y => [.str y.1])
        (fun _ _ => rfl) (fun _ _ h => Tok.str.inj (singleton_inj h)) hl2 k1.2 k2.2)))))
      (fun h => Tok.str.inj h.1 ▸ .disc key sm sm' h.2.2)
  | optional t => exact RT.optional.elim rt2 hi fun t' k2 => PFOn_mono (ihc t t' k1 k2) .optional
  | object ps ix =>
    refine RT.object.elim rt2 hi fun ps' ix' k2 => ?_
    exact PFOn_mono (PFOn_count hO (fun hl => PFOn_andThen hO
      (pf_entries hO ihc (k1 := fun x => [.str x.1, .bool (isOptionalField x.2)]) (k2 := fun y => [.str y.1, .bool (isOptionalField y.2)])
        (fun _ _ => rfl) (fun _ _ h => Tok.str.inj (List.cons.inj h).1) hl k1.1 k2.1)
      (fun _ => PFOn_count hO (fun hl2 => PFOn_seqT hO ix ix' hl2
        (fun x hx y hy => PFOn_andThen hO (ihc x.1 y.1 (k1.2.1 x hx) (k2.2.1 y hy)) (fun _ => ihc x.2 y.2 (k1.2.2 x hx) (k2.2.2 y hy)))))))
      (fun h => .object h.1 h.2)

/-- **The structural step.** Two structural nodes whose streams agree up to what follows them have equal streams and the
same shape, for whatever relation `R` equal streams of children establish. `hp`: the children start after the tag. -/
theorem shape_of_stream {rt1 rt2 : RT} (hs1 : structural rt1 = true) (hs2 : structural rt2 = true) (k1 : Kids C1 rt1) (k2 : Kids C2 rt2)
    {p1 p2 : Nat} (hp : ∀ k, 0 < k → O (p1 + k) (p2 + k)) {ts1 ts2 r1 r2 : List Tok}
    (h1 : h256 env1 (n1+1) rt1 act1 p1 = some ts1) (h2 : h256 env2 (n2+1) rt2 act2 p2 = some ts2) (he : ts1 ++ r1 = ts2 ++ r2) :
    ts1 = ts2 ∧ r1 = r2 ∧ Shape R rt1 rt2 := by
  rw [h256_struct _ _ _ hs1] at h1
  rw [h256_struct _ _ _ hs2] at h2
  obtain ⟨b1, hb1, rfl⟩ := pre_eq_some h1
  obtain ⟨b2, hb2, rfl⟩ := pre_eq_some h2
  have htag : tagOf rt1 = tagOf rt2 := Tok.tag.inj (List.cons.inj he).1
  rw [← htag] at hb2 he ⊢
  obtain ⟨rfl, hr, hsh⟩ := pf_body hO ihc hs1 hs2 k1 k2 htag _ _ _ _ _ _ (hp _ (bytesLen_pos _ _)) hb1 hb2 (List.cons.inj he).2
  exact ⟨rfl, hr, hsh⟩

end shape

/-- what the semantic step needs of a node besides its children -/
def Keyed : RT → Prop
  | .consts vs => ∀ v ∈ vs, isConst v = true
  | .disc _ _ m _ => (m.map (·.1)).Nodup
  | _ => True

theorem semAt_of_shape (hre : SourceDeterminesMatch) {env1 env2 : Env} {a b : Nat} {rt1 rt2 : RT}
    (h : Shape (C13R.SemAt env1 env2 a b) rt1 rt2) (hk1 : Keyed rt1) (hk2 : Keyed rt2) : C13R.SemAt env1 env2 (a+1) (b+1) rt1 rt2 := by
  intro strict x
  cases h with
  | tuple hp hr => exact at_tuple hp hr strict x
  | disc key sm sm' h => exact at_disc hk2 h strict x
  | object hp hi => exact at_object hp hi strict x
  | allOf h =>
    dsimp only [validate]
    exact allShort_agree_p2 (pairwise2_mono (fun a b hab => agree_ite Iff.rfl (hab strict x) (agree_ok rfl)) h)
  | anyOf h =>
    dsimp only [validate]
    exact anyShort_agree_p2 (pairwise2_mono (fun a b hab => hab strict x) h)
  | array h =>
    dsimp only [validate]
    cases x with
    | arr items => exact allShort_agree_same items (h strict)
    | _ => exact agree_ok rfl
  | set h =>
    dsimp only [validate]
    cases x with
    | set items => exact allShort_agree_same items (h strict)
    | _ => exact agree_ok rfl
  | map hk hv =>
    dsimp only [validate]
    cases x with
    | map es => exact allShort_agree_same es (fun e => agree_seq (hk strict e.1) (hv strict e.2))
    | _ => exact agree_ok rfl
  | optional h =>
    dsimp only [validate]
    exact agree_ite Iff.rfl (agree_ok rfl) (h strict x)
  | typeof _ | any | nullish _ _ | never | date | bigint | typed _ => dsimp only [validate]; exact agree_ok rfl
  | const h =>
    dsimp only [validate]
    rcases sameToks_cases h with ⟨n1, n2⟩ | rfl
    · rw [n1, n2, if_pos rfl, if_pos rfl]; exact agree_ok rfl
    · exact agree_ok rfl
  | regex _ _ h =>
    dsimp only [validate]
    cases x with
    | str s => exact agree_ok (hre _ _ h s)
    | _ => exact agree_ok rfl
  | strfmt h =>
    dsimp only [validate]
    cases x with
    | str s => exact agree_ok (fmtAll_perm (perm_of_sortBy_eq h))
    | _ => exact agree_ok rfl
  | numfmt h =>
    dsimp only [validate]
    cases x with
    | num c => exact agree_ok (fmtAll_perm (perm_of_sortBy_eq h))
    | _ => exact agree_ok rfl
  | consts h =>
    -- the sorted members are written with the same tokens one by one, so the unions have the same members
    have hp := perm_of_sortBy_eq (eq_of_sameToks (fun v hv => hk1 v ((sortedConsts_perm _).mem_iff.1 hv))
      (fun v hv => hk2 v ((sortedConsts_perm _).mem_iff.1 hv)) h)
    dsimp only [validate]
    rw [hp.any_eq, hp.any_eq]
    exact agree_ok rfl

/-- at fuels `n1`, `n2`: the streams of closed trees are self-delimiting, and trees with equal streams are `SemEq` -/
def Claim (env1 env2 : Env) (n1 n2 : Nat) : Prop :=
  ∀ rt1 rt2 act1 act2, Good rt1 → Good rt2 →
    PF (h256 env1 n1 rt1 act1) (h256 env2 n2 rt2 act2) (SemEq env1 env2 rt1 rt2)

theorem seq_good {α : Type} {P : α → Prop} {l : List α} (h : ∀ x ∈ l, P x) : ∀ x ∈ l, P x := h

theorem good_cases {rt : RT} (h : Good rt) :
    (∃ d t, rt = .described d t ∧ Good t) ∨ (structural rt = true ∧ Kids Good rt ∧ Keyed rt) := by
  cases h with
  | described d t h => exact .inl ⟨d, t, rfl, h⟩
  | consts _ hc => exact .inr ⟨rfl, trivial, hc⟩
  | tuple _ _ hp hr => exact .inr ⟨rfl, ⟨hp, hr⟩, trivial⟩
  | allOf _ h | anyOf _ h | array _ h | set _ h | optional _ h => exact .inr ⟨rfl, h, trivial⟩
  | map _ _ hk hv => exact .inr ⟨rfl, ⟨hk, hv⟩, trivial⟩
  | disc _ _ _ _ hn hm hs => exact .inr ⟨rfl, ⟨hs, hm⟩, hn⟩
  | object _ _ _ hp hk hv => exact .inr ⟨rfl, ⟨hp, hk, hv⟩, trivial⟩
  | _ => exact .inr ⟨rfl, trivial, trivial⟩

theorem h256_injective_closed (hre : SourceDeterminesMatch) (env1 env2 : Env) : ∀ n1 n2, Claim env1 env2 n1 n2 := by
  intro n1
  induction n1 with
  | zero => intro n2 rt1 rt2 act1 act2 _ _ p1 p2 ts1 ts2 r1 r2 h1; cases h1
  | succ n1 ih1 =>
    intro n2
    induction n2 with
    | zero => intro rt1 rt2 act1 act2 _ _ p1 p2 ts1 ts2 r1 r2 _ h2; cases h2
    | succ n2 ih2 =>
      intro rt1 rt2 act1 act2 hg1 hg2
      -- a description wrapper writes, by definition, what the tree under it writes with one unit of fuel less
      rcases good_cases hg1 with ⟨d, t, rfl, hgt⟩ | ⟨hs1, k1, key1⟩
      · exact PF_mono (ih1 (n2+1) t rt2 act1 act2 hgt hg2) sem_described_l
      rcases good_cases hg2 with ⟨d, t, rfl, hgt⟩ | ⟨hs2, k2, key2⟩
      · exact PF_mono (ih2 rt1 t act1 act2 hg1 hgt) sem_described_r
      intro p1 p2 ts1 ts2 r1 r2 h1 h2 he
      -- the children agree at all fuels, so at any given ones; the nodes then agree at all positive fuels
      have step : ∀ a b, ts1 = ts2 ∧ r1 = r2 ∧ Shape (C13R.SemAt env1 env2 a b) rt1 rt2 := fun a b =>
        shape_of_stream shift_true
          (fun c1 c2 g1 g2 => PF_iff_PFOn.1 (PF_mono (ih1 n2 c1 c2 act1 act2 g1 g2) (fun h => semAt_of_semEq h a b)))
          hs1 hs2 k1 k2 (fun _ _ => trivial) h1 h2 he
      exact ⟨(step 0 0).1, (step 0 0).2.1, semEq_of_semAt (fun a b => semAt_of_shape hre (step a b).2.2 key1 key2)⟩

theorem hash256Toks_eq_some {env : Env} {rt : RT} {ts : List Tok} (h : hash256Toks env rt = some ts) :
    ∃ a, h256 env h256Fuel rt [] (bytesLen rootToks) = some a ∧ ts = rootToks ++ a := by
  obtain ⟨a, ha, e⟩ := Option.map_eq_some_iff.1 h
  exact ⟨a, ha, e.symm⟩

/-- **Closed validators with the same token stream accept the same values.** -/
theorem same_stream_same_behaviour (hre : SourceDeterminesMatch) {env1 env2 : Env} {rt1 rt2 : RT}
    (hg1 : Good rt1) (hg2 : Good rt2) {ts : List Tok}
    (h1 : hash256Toks env1 rt1 = some ts) (h2 : hash256Toks env2 rt2 = some ts) : SemEq env1 env2 rt1 rt2 := by
  obtain ⟨a, ha, rfl⟩ := hash256Toks_eq_some h1
  obtain ⟨b, hb, e⟩ := hash256Toks_eq_some h2
  exact (h256_injective_closed hre env1 env2 h256Fuel h256Fuel rt1 rt2 [] [] hg1 hg2 _ _ _ _ [] [] ha hb
    (congrArg (· ++ []) (List.append_cancel_left e))).2.2

/-- **Two validators that disagree on any value have different token streams** (closed types) … -/
theorem different_behaviour_different_stream (hre : SourceDeterminesMatch) {env1 env2 : Env} {rt1 rt2 : RT}
    (hg1 : Good rt1) (hg2 : Good rt2) {ts1 ts2 : List Tok}
    (h1 : hash256Toks env1 rt1 = some ts1) (h2 : hash256Toks env2 rt2 = some ts2)
    {strict : Bool} {m1 m2 : Nat} {x : JsVal} {b1 b2 : Bool}
    (hv1 : validate env1 strict m1 rt1 x = .ok b1) (hv2 : validate env2 strict m2 rt2 x = .ok b2) (hne : b1 ≠ b2) :
    ts1 ≠ ts2 := by
  intro e
  subst e
  exact hne (same_stream_same_behaviour hre hg1 hg2 h1 h2 strict m1 m2 x b1 b2 hv1 hv2)

/-- … hence different byte streams handed to SHA-256 (all payloads below 2³² bytes): whatever collision is left is a
collision of SHA-256 itself. -/
theorem different_behaviour_different_bytes (hre : SourceDeterminesMatch) {env1 env2 : Env} {rt1 rt2 : RT}
    (hg1 : Good rt1) (hg2 : Good rt2) {ts1 ts2 : List Tok}
    (h1 : hash256Toks env1 rt1 = some ts1) (h2 : hash256Toks env2 rt2 = some ts2)
    (v1 : ∀ t ∈ ts1, C13.Tok.Valid t) (v2 : ∀ t ∈ ts2, C13.Tok.Valid t)
    {strict : Bool} {m1 m2 : Nat} {x : JsVal} {b1 b2 : Bool}
    (hv1 : validate env1 strict m1 rt1 x = .ok b1) (hv2 : validate env2 strict m2 rt2 x = .ok b2) (hne : b1 ≠ b2) :
    encodeToks ts1 ≠ encodeToks ts2 :=
  fun e => different_behaviour_different_stream hre hg1 hg2 h1 h2 hv1 hv2 hne (C13.tokens_injective ts1 ts2 v1 v2 e)

private def exT : RT :=
  .object [("b", .optional (.typeof "number")), ("a", .anyOf [.typeof "string", .nullish "null"])]
    [(.typeof "string", .array (.const (.str "x")))]

/-- a non-trivial tree meets the hypotheses: it is `Good`, its stream exists, and it accepts / rejects values -/
example : Good exT ∧ (hash256Toks [] exT).isSome = true ∧
    validate [] false 10 exT (.obj [("a", .str "s")]) = .ok true ∧ validate [] false 10 exT (.obj [("a", .num "1")]) = .ok false := by
  refine ⟨?_, by decide +kernel, by decide +kernel, by decide +kernel⟩
  refine .object _ _ (by decide) ?_ ?_ ?_
  · intro p hp
    simp only [List.mem_cons, List.mem_nil_iff, or_false] at hp
    rcases hp with rfl | rfl
    · exact .optional _ (.typeof _)
    · refine .anyOf _ ?_
      intro t ht
      simp only [List.mem_cons, List.mem_nil_iff, or_false] at ht
      rcases ht with rfl | rfl
      · exact .typeof _
      · exact .nullish _
  · intro p hp
    simp only [List.mem_cons, List.mem_nil_iff, or_false] at hp
    subst hp; exact .typeof _
  · intro p hp
    simp only [List.mem_cons, List.mem_nil_iff, or_false] at hp
    subst hp; exact .array _ (.const _)

/-- the optionality flag is part of the stream (the field the round-3 seed dropped): `{a: string}` and `{a?: string}`
have different streams -/
example : hash256Toks [] (.object [("a", .typeof "string")] []) ≠ hash256Toks [] (.object [("a", .optional (.typeof "string"))] []) := by
  decide +kernel

end BeffVerif.C13T
