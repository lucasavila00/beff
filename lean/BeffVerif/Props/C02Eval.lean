import BeffVerif.Model.JsonSchema
/-!
# C02 — facts about the JSON-Schema evaluator (`JS.valid`)

Fuel monotonicity (`valid_mono`, `valid_mono_le`) goes through the definedness order `Le` on verdicts: every combinator is
monotone for it, so a clause keeps the verdict it has when the sub-evaluator is replaced by one that extends it (`Ext`).
-/
namespace BeffVerif.C02E
open BeffVerif RT JsVal JS

theorem andO_true_left (x : Option Bool) : andO (some true) x = x := by cases x <;> rfl

theorem andO_true_right (x : Option Bool) : andO x (some true) = x := by
  cases x with
  | none => rfl
  | some a => exact congrArg some (Bool.and_true a)

theorem andO_assoc (x y z : Option Bool) : andO (andO x y) z = andO x (andO y z) := by
  cases x <;> cases y <;> cases z <;> simp only [andO, Bool.and_assoc]

theorem orO_false_left (x : Option Bool) : orO (some false) x = x := by cases x <;> rfl

theorem orO_assoc (x y z : Option Bool) : orO (orO x y) z = orO x (orO y z) := by
  cases x <;> cases y <;> cases z <;> simp only [orO, Bool.or_assoc]

theorem allO_cons (x : Option Bool) (l : List (Option Bool)) : allO (x :: l) = andO x (allO l) := by
  show l.foldl andO (andO (some true) x) = andO x (l.foldl andO (some true))
  rw [andO_true_left]
  induction l generalizing x with
  | nil => exact (andO_true_right x).symm
  | cons y l ih => rw [List.foldl, List.foldl, ih, andO_true_left, ih y, andO_assoc]

theorem anyO_cons (x : Option Bool) (l : List (Option Bool)) : anyO (x :: l) = orO x (anyO l) := by
  show l.foldl orO (orO (some false) x) = orO x (l.foldl orO (some false))
  rw [orO_false_left]
  induction l generalizing x with
  | nil => cases x <;> simp only [List.foldl, orO, Bool.or_false]
  | cons y l ih => rw [List.foldl, List.foldl, ih, orO_false_left, ih y, orO_assoc]

theorem andO_eq_true {x y : Option Bool} : andO x y = some true ↔ x = some true ∧ y = some true := by
  cases x <;> cases y <;> simp [andO]

theorem orO_eq_some {x y : Option Bool} {b : Bool} : orO x y = some b ↔ ∃ a c, x = some a ∧ y = some c ∧ (a || c) = b := by
  cases x <;> cases y <;> simp [orO]

theorem allO_map_some (bs : List Bool) : allO (bs.map some) = some (bs.all id) := by
  induction bs with
  | nil => rfl
  | cons b bs ih => rw [List.map_cons, allO_cons, ih]; rfl

theorem allO_true_iff {l : List (Option Bool)} : allO l = some true ↔ ∀ x ∈ l, x = some true := by
  induction l with
  | nil => exact ⟨fun _ _ h => (nomatch h), fun _ => rfl⟩
  | cons x l ih => rw [allO_cons, andO_eq_true, ih, List.forall_mem_cons]

def Le {α : Type} (x y : Option α) : Prop := ∀ b, x = some b → y = some b

def Ext (v v' : JsVal → JsVal → Option Bool) : Prop := ∀ s d b, v s d = some b → v' s d = some b

theorem Le.refl {α : Type} {x : Option α} : Le x x := fun _ h => h

theorem Le.bind {α β : Type} {x x' : Option α} {f f' : α → Option β} (hx : Le x x') (hf : ∀ a, Le (f a) (f' a)) :
    Le (x.bind f) (x'.bind f') := by
  intro b h
  cases x with
  | none => cases h
  | some a => rw [hx a rfl]; exact hf a b h

theorem Le.map {α β : Type} {x x' : Option α} (hx : Le x x') (f : α → β) : Le (x.map f) (x'.map f) := by
  intro b h
  cases x with
  | none => cases h
  | some a => rw [hx a rfl]; exact h

theorem andO_le {x x' y y' : Option Bool} (hx : Le x x') (hy : Le y y') : Le (andO x y) (andO x' y') := by
  have e : ∀ x y, andO x y = x.bind fun a => y.map (a && ·) := fun x y => by cases x <;> cases y <;> rfl
  rw [e, e]; exact hx.bind fun _ => hy.map _

theorem orO_le {x x' y y' : Option Bool} (hx : Le x x') (hy : Le y y') : Le (orO x y) (orO x' y') := by
  have e : ∀ x y, orO x y = x.bind fun a => y.map (a || ·) := fun x y => by cases x <;> cases y <;> rfl
  rw [e, e]; exact hx.bind fun _ => hy.map _

theorem cntO_le {x x' : Option Nat} {y y' : Option Bool} (hx : Le x x') (hy : Le y y') : Le (cntO x y) (cntO x' y') := by
  have e : ∀ x y, cntO x y = x.bind fun k => y.map (if · then k + 1 else k) := fun x y => by cases x <;> cases y <;> rfl
  rw [e, e]; exact hx.bind fun _ => hy.map _

theorem foldl_le {α β γ : Type} {op : Option β → Option α → Option β}
    (hop : ∀ {a a' x x'}, Le a a' → Le x x' → Le (op a x) (op a' x')) {f g : γ → Option α} :
    ∀ {l : List γ}, (∀ x ∈ l, Le (f x) (g x)) → ∀ {a a' : Option β}, Le a a' → Le ((l.map f).foldl op a) ((l.map g).foldl op a')
  | [], _, _, _, ha => ha
  | x :: _, h, _, _, ha => foldl_le hop (fun y hy => h y (List.mem_cons_of_mem _ hy)) (hop ha (h x List.mem_cons_self))

theorem allO_le_cons {x x' : Option Bool} {l l' : List (Option Bool)} (hx : Le x x') (hl : Le (allO l) (allO l')) :
    Le (allO (x :: l)) (allO (x' :: l')) := by
  rw [allO_cons, allO_cons]; exact andO_le hx hl

section clauses
variable {P : Params} {v v' : JsVal → JsVal → Option Bool} {get : String → Option JsVal} {d : JsVal}

theorem cAny_le (hv : Ext v v') : Le (cAny v get d) (cAny v' get d) := by
  unfold cAny
  split
  · exact foldl_le orO_le (fun s _ => hv s d) Le.refl
  · exact Le.refl

theorem cOne_le (hv : Ext v v') : Le (cOne v get d) (cOne v' get d) := by
  unfold cOne
  split
  · exact (foldl_le cntO_le (fun s _ => hv s d) Le.refl).map _
  · exact Le.refl

theorem cAll_le (hv : Ext v v') : Le (cAll v get d) (cAll v' get d) := by
  unfold cAll
  split
  · exact foldl_le andO_le (fun s _ => hv s d) Le.refl
  · exact Le.refl

theorem cNot_le (hv : Ext v v') : Le (cNot v get d) (cNot v' get d) := by
  unfold cNot
  split
  · exact Le.map (hv _ d) _
  · exact Le.refl

theorem cRef_le (hv : Ext v v') : Le (cRef P v get d) (cRef P v' get d) := by
  unfold cRef
  split
  · split
    · exact hv _ d
    · exact Le.refl
  · exact Le.refl

theorem cObj_le (hv : Ext v v') : Le (cObj v get d) (cObj v' get d) := by
  unfold cObj
  split
  · refine allO_le_cons (foldl_le andO_le (fun p _ => ?_) Le.refl) <| allO_le_cons Le.refl <| allO_le_cons ?_ <| allO_le_cons ?_ Le.refl
    · split
      · exact hv _ _
      · exact Le.refl
    · split
      · exact foldl_le andO_le (fun p _ => hv _ _) Le.refl
      · exact Le.refl
    · split
      · exact foldl_le andO_le (fun p _ => hv _ _) Le.refl
      · exact Le.refl
  · exact Le.refl

theorem cArr_le (hv : Ext v v') : Le (cArr v get d) (cArr v' get d) := by
  unfold cArr
  split
  · refine allO_le_cons (foldl_le andO_le (fun p _ => hv _ _) Le.refl) <| allO_le_cons ?_ <| allO_le_cons Le.refl Le.refl
    split
    · exact foldl_le andO_le (fun x _ => hv _ _) Le.refl
    · exact Le.refl
  · exact Le.refl

theorem validG_ext (hv : Ext v v') {b : Bool} (h : validG P v get d = some b) : validG P v' get d = some b :=
  (allO_le_cons Le.refl <| allO_le_cons Le.refl <| allO_le_cons Le.refl <| allO_le_cons (cAny_le hv) <| allO_le_cons (cOne_le hv) <|
    allO_le_cons (cAll_le hv) <| allO_le_cons (cNot_le hv) <| allO_le_cons (cRef_le hv) <| allO_le_cons Le.refl <|
    allO_le_cons Le.refl <| allO_le_cons (cObj_le hv) <| allO_le_cons (cArr_le hv) Le.refl) b h

end clauses

/-- **fuel monotonicity**: one more unit of fuel never changes a verdict -/
theorem valid_mono (P : Params) : ∀ k, Ext (valid P k) (valid P (k+1)) := by
  intro k
  induction k with
  | zero => intro s d b h; simp [valid] at h
  | succ k ih =>
    intro s d b h
    cases s with
    | bool c => simpa [valid] using h
    | obj kvs =>
      simp only [valid] at h ⊢
      exact validG_ext ih h
    | _ => simp [valid] at h

theorem valid_mono_le (P : Params) {k k' : Nat} (hk : k ≤ k') : Ext (valid P k) (valid P k') := by
  induction hk with
  | refl => intro s d b h; exact h
  | step _ ih => intro s d b h; exact valid_mono P _ s d b (ih s d b h)

theorem typeOk_eq (t : String) (d : JsVal) : typeOk t d = match d with
    | .null => t == "null" | .bool _ => t == "boolean" | .num _ => t == "number" | .str _ => t == "string"
    | .arr _ => t == "array" | .obj _ => t == "object" | _ => false := by
  unfold typeOk
  split
  -- the fall-through alternative: each of its hypotheses refutes one comparison
  case h_7 h1 h2 h3 h4 h5 h6 =>
    split
    · exact (beq_eq_false_iff_ne.2 fun e => h1 e rfl).symm
    · exact (beq_eq_false_iff_ne.2 fun e => h2 _ e rfl).symm
    · exact (beq_eq_false_iff_ne.2 fun e => h3 _ e rfl).symm
    · exact (beq_eq_false_iff_ne.2 fun e => h4 _ e rfl).symm
    · exact (beq_eq_false_iff_ne.2 fun e => h5 _ e rfl).symm
    · exact (beq_eq_false_iff_ne.2 fun e => h6 _ e rfl).symm
    · rfl
  all_goals simp

theorem typeOk_array (d : JsVal) : typeOk "array" d = (match d with | .arr _ => true | _ => false) := by
  rw [typeOk_eq]; cases d <;> simp only [String.reduceBEq]

theorem typeOk_object (d : JsVal) : typeOk "object" d = (match d with | .obj _ => true | _ => false) := by
  rw [typeOk_eq]; cases d <;> simp only [String.reduceBEq]

section keywords
variable {P : Params} {v : JsVal → JsVal → Option Bool} {get : String → Option JsVal} {d : JsVal}

theorem cType_none (h : get "type" = none) : cType get d = some true := by simp only [cType, h]
theorem cConst_none (h : get "const" = none) : cConst get d = some true := by simp only [cConst, h]
theorem cEnum_none (h : get "enum" = none) : cEnum get d = some true := by simp only [cEnum, h]
theorem cConst_some {c : JsVal} (h : get "const" = some c) : cConst get d = some (jsonEq 50 c d) := by simp only [cConst, h]
theorem cEnum_arr {cs : List JsVal} (h : get "enum" = some (.arr cs)) : cEnum get d = some (cs.any (fun c => jsonEq 50 c d)) := by
  simp only [cEnum, h]
theorem cAny_none (h : get "anyOf" = none) : cAny v get d = some true := by simp only [cAny, h]
theorem cOne_none (h : get "oneOf" = none) : cOne v get d = some true := by simp only [cOne, h]
theorem cAll_none (h : get "allOf" = none) : cAll v get d = some true := by simp only [cAll, h]
theorem cNot_none (h : get "not" = none) : cNot v get d = some true := by simp only [cNot, h]
theorem cRef_none (h : get "$ref" = none) : cRef P v get d = some true := by simp only [cRef, h]
theorem cPattern_none (h : get "pattern" = none) : cPattern P get d = some true := by simp only [cPattern, h]
theorem cFormat_none (h : get "format" = none) : cFormat P get d = some true := by simp only [cFormat, h]

theorem cObj_none (h1 : get "properties" = none) (h2 : get "required" = none) (h3 : get "additionalProperties" = none)
    (h4 : get "propertyNames" = none) : cObj v get d = some true := by
  unfold cObj
  split
  · simp only [declaredOf, h1, h2, h3, h4]; rfl
  · rfl

theorem prefixOf_none (h : get "prefixItems" = none) : prefixOf get = [] := by simp only [prefixOf, h]
theorem prefixOf_arr {ps : List JsVal} (h : get "prefixItems" = some (.arr ps)) : prefixOf get = ps := by simp only [prefixOf, h]

theorem cArr_none (h1 : get "prefixItems" = none) (h2 : get "items" = none) (h3 : get "minItems" = none) :
    cArr v get d = some true := by
  unfold cArr
  split
  · simp only [prefixOf_none h1, h2, h3]; rfl
  · rfl

end keywords

end BeffVerif.C02E
