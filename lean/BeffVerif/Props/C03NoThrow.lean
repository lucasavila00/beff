import BeffVerif.Props.C12Nonempty
/-!
# C03 — validate never throws in a closed environment

`validate_no_throw`: if every reference that occurs in the runtype and in the environment resolves, `validate` never
ends in an exception — for every mode, fuel and value (it answers, or runs out of fuel). The only `throw` of the
validator model is the unresolved `RefRuntype` lookup; every other branch merely propagates what its children return.
-/
namespace BeffVerif.C03
open BeffVerif RT

def isDangling (env : Env) : RT → Bool
  | .ref name => (env.lookup name).isNone
  | _ => false

/-- every reference in the tree resolves -/
def Closed (env : Env) (rt : RT) : Prop := anyNode (isDangling env) rt = false

theorem Closed.ref {env : Env} {name : String} (hc : Closed env (.ref name)) : env.lookup name ≠ none := by
  intro hl
  simp [Closed, anyNode, isDangling, hl] at hc

/-- **No foreign exception**: in a closed environment `validate` never throws -/
theorem validate_no_throw (env : Env) (strict : Bool)
    (henv : ∀ name t, env.lookup name = some t → Closed env t) :
    ∀ n rt v c, Closed env rt → validate env strict n rt v ≠ .throw c := by
  intro n
  induction n with
  | zero => intro _ _ _ _; nofun
  | succ k ih =>
    intro rt v c hc
    rw [validate_succ]
    -- the relation ignores its right side: the step is compared with itself
    exact validateStep_rel Res.respects_noThrow env (strict' := strict) (vf' := validate env strict k) rt v
      (fun t ht x c => ih t x c (ht.anyNode_false henv hc)) (fun _ e hl => absurd hl (e ▸ hc).ref)
      (fun _ _ _ _ => by split <;> exact nofun) c

end BeffVerif.C03
