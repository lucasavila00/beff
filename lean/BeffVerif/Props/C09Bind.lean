import BeffVerif.Props.C09
/-!
# C09 — a resolved name always lands on a declaration of the file it names

`parse_and_bind` only ever records export entries `Exp.decl f n` with `f` the file itself and `n` one of its
declarations (`bind_wf`); resolution only ever returns such entries or locals; hence for every project built by `bind`
whatever `(file, name)` the type walker returns is a declaration that exists in that file — types that merely share a
name in different files cannot be confused, and nothing is bound to a name that is not declared.
-/
namespace BeffVerif.C09
open BeffVerif Modules

theorem get_isSome_iff {α : Type} {l : List (String × α)} {k : String} :
    (get l k).isSome = true ↔ ∃ x ∈ l, x.1 = k := by
  unfold Modules.get
  rw [Option.isSome_map, List.find?_isSome]
  simp only [beq_iff_eq]

theorem mem_put_of_mem {α : Type} {l : List (String × α)} (k : String) (v : α) {x : String × α} (h : x ∈ l) :
    ∃ x' ∈ put l k v, x'.1 = x.1 := by
  unfold put
  split
  · refine ⟨_, List.mem_map_of_mem h, ?_⟩
    split
    · exact (eq_of_beq ‹_›).symm
    · rfl
  · exact ⟨x, List.mem_append_left _ h, rfl⟩

theorem get_put_mono {α : Type} (l : List (String × α)) (k k' : String) (v : α)
    (h : (get l k').isSome = true) : (get (put l k v) k').isSome = true :=
  let ⟨_, hx, e⟩ := get_isSome_iff.1 h
  let ⟨x', hx', e'⟩ := mem_put_of_mem k v hx
  get_isSome_iff.2 ⟨x', hx', e'.trans e⟩

theorem get_put_self {α : Type} (l : List (String × α)) (k : String) (v : α) : (get (put l k v) k).isSome = true := by
  refine get_isSome_iff.2 ⟨(k, v), ?_, rfl⟩
  unfold put
  split
  · obtain ⟨y, hy, hk⟩ := List.any_eq_true.1 ‹_›
    exact List.mem_map.2 ⟨y, hy, if_pos hk⟩
  · exact List.mem_append_right _ (List.mem_singleton_self _)

theorem mem_put {α : Type} (l : List (String × α)) (k : String) (v : α) (x : String × α)
    (h : x ∈ put l k v) : x ∈ l ∨ x = (k, v) := by
  unfold put at h
  split at h
  · obtain ⟨y, hy, hx⟩ := List.mem_map.1 h
    split at hx
    · exact .inr hx.symm
    · exact .inl (hx ▸ hy)
  · exact (List.mem_append.1 h).imp_right List.mem_singleton.1

theorem forall_put {α : Type} {P : α → Prop} {l : List (String × α)} {k : String} {v : α}
    (hl : ∀ x ∈ l, P x.2) (hv : P v) : ∀ x ∈ put l k v, P x.2 :=
  fun x hx => (mem_put l k v x hx).elim (hl x) (· ▸ hv)

/-- an export entry that names a declaration names one of this very file -/
def ExpOk (m : Mod) (e : Exp) : Prop := ∀ f n, e = .decl f n → f = m.name ∧ (get m.locals n).isSome = true

/-- the invariant `bind` keeps (`bind_wf`): every export entry the module records is `ExpOk` -/
structure WF (m : Mod) : Prop where
  types : ∀ x, x ∈ m.types → ExpOk m x.2
  unknown : ∀ x, x ∈ m.unknown → ExpOk m x.2
  dflt : ∀ e, m.dflt = some (.renamed e) → ExpOk m e

theorem ExpOk.mono {m m' : Mod} {e : Exp} (hn : m'.name = m.name)
    (hl : ∀ n, (get m.locals n).isSome = true → (get m'.locals n).isSome = true) (h : ExpOk m e) : ExpOk m' e := by
  intro f n he
  obtain ⟨h1, h2⟩ := h f n he
  exact ⟨hn ▸ h1, hl n h2⟩

theorem wf_setDefault (m : Mod) (d : Dflt) (h : WF m) (hd : ∀ e, d = .renamed e → ExpOk m e) : WF (m.setDefault d) := by
  unfold Mod.setDefault
  split
  · exact h
  · exact ⟨h.types, h.unknown, fun e he => hd e (Option.some.inj he)⟩

theorem wf_insertType (m : Mod) (name : String) (e : Exp) (h : WF m) (he : ExpOk m e) : WF (m.insertType name e) := by
  unfold Mod.insertType
  split
  · exact wf_setDefault m _ h fun _ h' => Dflt.renamed.inj h' ▸ he
  · exact ⟨forall_put h.types he, h.unknown, h.dflt⟩

theorem wf_insertUnknown (m : Mod) (name : String) (e : Exp) (h : WF m) (he : ExpOk m e) : WF (m.insertUnknown name e) := by
  unfold Mod.insertUnknown
  split
  · exact wf_setDefault m _ h fun _ h' => Dflt.renamed.inj h' ▸ he
  · exact ⟨h.types, forall_put h.unknown he, h.dflt⟩

theorem expOk_something (m : Mod) (n f : String) : ExpOk m (.something n f) := nofun

theorem expOk_starOf (m : Mod) (f : String) : ExpOk m (.starOf f) := nofun

@[simp] theorem setDefault_name (m : Mod) (d : Dflt) : (m.setDefault d).name = m.name := by
  unfold Mod.setDefault; split <;> rfl
@[simp] theorem insertType_name (m : Mod) (k : String) (e : Exp) : (m.insertType k e).name = m.name := by
  unfold Mod.insertType; split <;> simp
@[simp] theorem insertUnknown_name (m : Mod) (k : String) (e : Exp) : (m.insertUnknown k e).name = m.name := by
  unfold Mod.insertUnknown; split <;> simp
@[simp] theorem setDefault_locals (m : Mod) (d : Dflt) : (m.setDefault d).locals = m.locals := by
  unfold Mod.setDefault; split <;> rfl
@[simp] theorem insertType_locals (m : Mod) (k : String) (e : Exp) : (m.insertType k e).locals = m.locals := by
  unfold Mod.insertType; split <;> simp
@[simp] theorem insertUnknown_locals (m : Mod) (k : String) (e : Exp) : (m.insertUnknown k e).locals = m.locals := by
  unfold Mod.insertUnknown; split <;> simp

theorem wf_addLocal (m : Mod) (d : Decl) (h : WF m) : WF { m with locals := put m.locals d.name d } := by
  have mono : ∀ e, ExpOk m e → ExpOk { m with locals := put m.locals d.name d } e :=
    fun e he => ExpOk.mono (m := m) (m' := { m with locals := put m.locals d.name d }) rfl (fun n hn => get_put_mono m.locals d.name n d hn) he
  exact ⟨fun x hx => mono _ (h.types x hx), fun x hx => mono _ (h.unknown x hx), fun e he => mono _ (h.dflt e he)⟩

theorem bindStmt_wf (m : Mod) (s : Stmt) (h : WF m) : WF (bindStmt m s) ∧ (bindStmt m s).name = m.name := by
  have own (d : Decl) : ExpOk { m with locals := put m.locals d.name d } (.decl m.name d.name) :=
    fun _ _ he => by cases he; exact ⟨rfl, get_put_self _ _ _⟩
  cases s with
  | decl exported d =>
    dsimp only [bindStmt]
    split
    · exact ⟨wf_insertType _ _ _ (wf_addLocal m d h) (own d), insertType_name ..⟩
    · exact ⟨wf_addLocal m d h, rfl⟩
  | importNamed _ _ t | importStar _ t | importDefault _ t | exportAll t =>
    cases t <;> exact ⟨⟨h.types, h.unknown, h.dflt⟩, rfl⟩
  | exportLocal n r => exact ⟨h, rfl⟩
  | exportFrom _ r t =>
    cases t with
    | none => exact ⟨h, rfl⟩
    | some f => exact ⟨wf_insertUnknown m r _ h (expOk_something _ _ _), insertUnknown_name ..⟩
  | exportNs r t =>
    cases t with
    | none => exact ⟨h, rfl⟩
    | some f => exact ⟨wf_insertUnknown m r _ h (expOk_starOf _ _), insertUnknown_name ..⟩
  | exportDefault n => exact ⟨wf_setDefault m _ h (fun _ he => nomatch he), setDefault_name ..⟩
  | exportDefaultIface d =>
    exact ⟨wf_setDefault _ _ (wf_addLocal m d h) fun e he => by cases he; exact own d, setDefault_name ..⟩

theorem bindExportList_wf (m : Mod) (s : Stmt) (h : WF m) : WF (bindExportList m s) ∧ (bindExportList m s).name = m.name := by
  cases s <;> try exact ⟨h, rfl⟩
  rename_i name renamed
  dsimp only [bindExportList]
  split
  · rename_i hl
    exact ⟨wf_insertType m renamed _ h fun _ _ he => by cases he; exact ⟨rfl, hl ▸ rfl⟩, insertType_name ..⟩
  · split
    · exact ⟨wf_insertUnknown m renamed _ h (expOk_something _ _ _), insertUnknown_name ..⟩
    · exact ⟨wf_insertUnknown m renamed _ h (expOk_starOf _ _), insertUnknown_name ..⟩
    · exact ⟨wf_insertUnknown m renamed _ h (expOk_something _ _ _), insertUnknown_name ..⟩
    · exact ⟨h, rfl⟩

theorem foldl_wf (f : Mod → Stmt → Mod) (hf : ∀ m s, WF m → WF (f m s) ∧ (f m s).name = m.name) :
    ∀ (ss : List Stmt) (m : Mod), WF m → WF (ss.foldl f m) ∧ (ss.foldl f m).name = m.name := by
  intro ss
  induction ss with
  | nil => intro m h; exact ⟨h, rfl⟩
  | cons s rest ih =>
    intro m h
    obtain ⟨h1, n1⟩ := hf m s h
    obtain ⟨h2, n2⟩ := ih _ h1
    exact ⟨h2, n2.trans n1⟩

/-- `parse_and_bind` only records declarations of the file itself -/
theorem bind_wf (sf : SrcFile) : WF (bind sf) ∧ (bind sf).name = sf.name := by
  unfold Modules.bind
  have h0 : WF ({ name := sf.name } : Mod) :=
    { types := fun x hx => by simp at hx
      unknown := fun x hx => by simp at hx
      dflt := fun e he => by simp at he }
  obtain ⟨h1, n1⟩ := foldl_wf bindStmt bindStmt_wf sf.stmts _ h0
  obtain ⟨h2, n2⟩ := foldl_wf bindExportList bindExportList_wf sf.stmts _ h1
  exact ⟨h2, n2.trans n1⟩

theorem file_name (p : Project) (f : String) (m : Mod) (h : p.file f = some m) : m.name = f := by
  unfold Project.file at h
  have := List.find?_some h
  simpa using this

/-- what the walker returns exists: a declaration `r.2` of the file `r.1` -/
def Lands (p : Project) (r : String × String) : Prop := ∃ m, p.file r.1 = some m ∧ (get m.locals r.2).isSome = true

theorem mem_of_get {α : Type} {l : List (String × α)} {k : String} {v : α} (h : get l k = some v) : ∃ x ∈ l, x.2 = v :=
  let ⟨x, hx, e⟩ := Option.map_eq_some_iff.1 h
  ⟨x, List.mem_of_find?_eq_some hx, e⟩

theorem starFinds_ok (p : Project) (hwf : ∀ f m, p.file f = some m → WF m) {m : Mod} {n : String} {e : Exp}
    (hm : ∃ f, p.file f = some m) (h : StarFinds p m n e) : ∃ m' f', p.file f' = some m' ∧ ExpOk m' e := by
  induction h with
  | @here m n e hx =>
    obtain ⟨f, hf⟩ := hm
    refine ⟨m, f, hf, ?_⟩
    unfold explicitOf at hx
    cases ht : get m.types n with
    | some e' =>
      obtain ⟨x, hx1, hx2⟩ := mem_of_get ht
      rw [ht] at hx
      exact Option.some.inj hx ▸ hx2 ▸ (hwf f m hf).types x hx1
    | none =>
      rw [ht] at hx
      obtain ⟨x, hx1, hx2⟩ := mem_of_get hx
      exact hx2 ▸ (hwf f m hf).unknown x hx1
  | there _ _ hs _ ih => exact ih ⟨_, hs⟩

/-- Rule induction over `Exports` / `Denotes` / `Scope`, one line per rule: a local lands; an export entry found along
the `export *` chain names a declaration of the module that records it. -/
theorem Exports.lands {p : Project} (hwf : ∀ f m, p.file f = some m → WF m) {f n r} (h : Exports p f n r) : Lands p r :=
  Exports.rec (motive_1 := fun _ _ r _ => Lands p r)
    (motive_2 := fun e r _ => ∀ m' f', p.file f' = some m' → ExpOk m' e → Lands p r)
    (motive_3 := fun _ _ r _ => Lands p r)
    (fun _ hf hs _ ih => let ⟨_, _, hf', hok⟩ := starFinds_ok p hwf ⟨_, hf⟩ hs; ih _ _ hf' hok)
    (fun _ _ _ ih => ih)
    (fun hf hd _ ih => ih _ _ hf ((hwf _ _ hf).dflt _ hd))
    (fun m' f' hf' hok => let ⟨h1, h2⟩ := hok _ _ rfl; ⟨m', by rw [h1, file_name p f' m' hf']; exact hf', h2⟩)
    (fun _ ih _ _ _ _ => ih)
    (fun hf hl => ⟨_, hf, hl⟩)
    (fun _ _ _ _ ih => ih)
    (fun _ _ _ _ ih => ih) h

theorem Scope.lands {p : Project} (hwf : ∀ f m, p.file f = some m → WF m) {f n r} : Scope p f n r → Lands p r
  | .loc hf hl => ⟨_, hf, hl⟩
  | .named _ _ _ he | .dflt _ _ _ he => he.lands hwf

/-- **Every resolved type name lands on a declaration of the named file** — for every project whose modules are
well-formed (in particular every project built by `bind`), every fuel, file, name and visibility. -/
theorem resolveType_lands (p : Project) (hwf : ∀ f m, p.file f = some m → WF m) : ∀ fuel f n vis r,
    resolveType p fuel f n vis = some r → Lands p r
  | fuel, f, n, .loc, r, h => ((resolveType_sound p fuel f n r).1 h).lands hwf
  | fuel, f, n, .exp, r, h => ((resolveType_sound p fuel f n r).2 h).lands hwf

/-- the statement for projects as the compiler builds them -/
theorem bound_project_resolves_to_declarations (files : List SrcFile) (fuel : Nat) (f n : String) (vis : Vis)
    (r : String × String) (h : resolveType (files.map bind) fuel f n vis = some r) : Lands (files.map bind) r := by
  refine resolveType_lands _ ?_ fuel f n vis r h
  intro f' m hm
  unfold Project.file at hm
  have hmem := List.mem_of_find?_eq_some hm
  obtain ⟨sf, _, hsf⟩ := List.mem_map.1 hmem
  exact hsf ▸ (bind_wf sf).1

end BeffVerif.C09
