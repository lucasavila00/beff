import BeffVerif.Props.C03Declared
/-!
# C03 — parsing the parsed value again returns it (structural fragment, input key order)

"parsing it again returns an equal value". `parse_idem`: for every type of the structural fragment of
`Props/C03Declared.lean` (no unions, no intersections), every environment, EVERY value and fuel: if the validator accepts `v`
and the parse step returns `d`, the parse step applied to `d` returns `d` — the same list of properties in the same order
at every object position, not merely an equivalent value. It is the instance of `parse_twice`, which asks nothing of the
validator and holds for either strictness option. The object case needs more than the invariant of
`obj_fold` (in `Props/C03Declared`): the accumulator has distinct keys (`obj_fold_nodup`), none of them an array index, so that setting
its own entries again in order rebuilds it (`rebuild`, `setProp_append`).
-/
namespace BeffVerif.C03S
open BeffVerif RT JsVal C02F C11F

theorem mapM'_idem {α : Type} {f : α → Res α} {xs : List α} : ∀ {ys : List α}, mapM' f xs = .ok ys →
    (∀ x ∈ xs, ∀ y, f x = .ok y → f y = .ok y) → mapM' f ys = .ok ys := by
  induction xs with
  | nil => intro _ hm _; cases hm; rfl
  | cons x xs ih =>
    intro _ hm h
    obtain ⟨y, ys', hx, hxs, rfl⟩ := mapM'_cons_ok hm
    exact mapM'_cons_of (h x List.mem_cons_self y hx) (ih hxs fun x' hx' => h x' (List.mem_cons_of_mem _ hx'))

theorem mapM'_zip_range_of_get {α β : Type} {f : α × Nat → Res β} {l : List α} {ys zs : List β} {d : β}
    (hl : ys.length = l.length) (h : ∀ q ∈ l.zip (List.range l.length), f q = .ok ((ys ++ zs).getD q.2 d)) :
    mapM' f (l.zip (List.range l.length)) = .ok ys := by
  have hlz : (l.zip (List.range l.length)).length = ys.length := by
    rw [hl, List.length_zip, List.length_range, Nat.min_self]
  refine mapM'_of_get hlz.symm fun j hj => ⟨ys[j]'(hlz ▸ hj), List.getElem?_eq_getElem _, ?_⟩
  rw [h _ (List.getElem_mem hj), List.getElem_zip, List.getElem_range, List.getD_eq_getElem?_getD,
    List.getElem?_append_left (hlz ▸ hj), List.getElem?_eq_getElem (hlz ▸ hj)]
  rfl

theorem setProp_append (pre : List (String × JsVal)) (k : String) (y : JsVal)
    (hk : k ∉ pre.map (·.1)) (hi : arrayIndex? k = none) : setProp pre k y = pre ++ [(k, y)] := by
  unfold setProp
  have : pre.any (fun p => p.1 == k) = false := by
    cases h : pre.any (fun p => p.1 == k) with
    | false => rfl
    | true =>
      exfalso; apply hk
      obtain ⟨p, hp, e⟩ := List.any_eq_true.1 h
      exact List.mem_map.2 ⟨p, hp, by simpa using e⟩
  simp [this, hi]

theorem setProp_keys_nodup (acc : List (String × JsVal)) (k : String) (y : JsVal)
    (hn : (acc.map (·.1)).Nodup) (hi : arrayIndex? k = none) : ((setProp acc k y).map (·.1)).Nodup := by
  by_cases hk : k ∈ acc.map (·.1)
  · unfold setProp
    have : acc.any (fun p => p.1 == k) = true := by
      obtain ⟨p, hp, e⟩ := List.mem_map.1 hk
      exact List.any_eq_true.2 ⟨p, hp, by simp [e]⟩
    simp only [this, if_true]
    have hmap : (acc.map (fun p => if p.1 == k then (k, y) else p)).map (·.1) = acc.map (·.1) := by
      rw [List.map_map]
      apply List.map_congr_left
      intro p _
      simp only [Function.comp]
      split
      · rename_i e; simp at e; simp [e]
      · rfl
    rw [hmap]; exact hn
  · rw [setProp_append acc k y hk hi]
    simp only [List.map_append, List.map_cons, List.map_nil]
    exact List.nodup_append.2 ⟨hn, by simp, by
      intro a ha b hb
      simp only [List.mem_singleton] at hb
      subst hb
      intro e; subst e; exact hk ha⟩

/-- the accumulator of the object branch has distinct keys -/
theorem obj_fold_nodup (props : List (String × RT)) (pf : RT → JsVal → Res JsVal) (v : JsVal)
    (step : List (String × JsVal) → String → Res (List (String × JsVal)))
    (hstep : ∀ acc k acc', step acc k = .ok acc' →
      (∃ t y, parseAV.lookupProp' props k = some t ∧ pf t (v.getProp k) = .ok y ∧ acc' = setProp acc k y) ∨
      (parseAV.lookupProp' props k = none ∧ acc' = acc))
    (hsafe : ∀ k t, parseAV.lookupProp' props k = some t → arrayIndex? k = none) :
    ∀ (ks : List String) (acc0 acc : List (String × JsVal)), (acc0.map (·.1)).Nodup → foldRes step acc0 ks = .ok acc →
      (acc.map (·.1)).Nodup := by
  intro ks acc0 acc hn hf
  refine (holds_foldRes (I := fun a => (a.map (·.1)).Nodup) hn fun b k _ hb => Res.holds_of_ok fun b' hs => ?_).of_ok hf
  rcases hstep b k b' hs with ⟨t, y, hl, _, rfl⟩ | ⟨_, rfl⟩
  · exact setProp_keys_nodup b k y hb (hsafe k t hl)
  · exact hb

/-- setting the entries of a list with distinct non-index keys, in order, rebuilds the list -/
theorem rebuild (step : List (String × JsVal) → String → Res (List (String × JsVal))) :
    ∀ (suffix pre : List (String × JsVal)), ((pre ++ suffix).map (·.1)).Nodup →
      (∀ p ∈ suffix, arrayIndex? p.1 = none) →
      (∀ acc' p, p ∈ suffix → step acc' p.1 = .ok (setProp acc' p.1 p.2)) →
      foldRes step pre (suffix.map (·.1)) = .ok (pre ++ suffix)
  | [], pre, _, _, _ => by simp [foldRes]
  | p :: ps, pre, hn, hi, hs => by
    simp only [List.map_cons, foldRes]
    rw [hs pre p List.mem_cons_self]
    simp only
    have hk : p.1 ∉ pre.map (·.1) := by
      intro hmem
      simp only [List.map_append, List.map_cons] at hn
      have := (List.nodup_append.1 hn).2.2 _ hmem p.1 List.mem_cons_self
      exact this rfl
    rw [setProp_append pre p.1 p.2 hk (hi p List.mem_cons_self)]
    have := rebuild step ps (pre ++ [p]) (by simpa using hn) (fun q hq => hi q (List.mem_cons_of_mem _ hq))
      (fun acc' q hq => hs acc' q (List.mem_cons_of_mem _ hq))
    simpa using this

theorem lookupProp_of_mem_nodup {l : List (String × JsVal)} (hn : (l.map (·.1)).Nodup) (p : String × JsVal) (hp : p ∈ l) :
    lookupProp l p.1 = some p.2 := by
  rw [lookupProp, find?_key_of_nodup hn p hp]

theorem parse_twice (env : Env) (henv : ∀ name t, env.lookup name = some t → pfrag t = true) (o : ParseOpts)
    (ho : o.sorted = false) :
    ∀ (n : Nat) (t : RT) (v d : JsVal), pfrag t = true → parseAV env o n t v = .ok d → parseAV env o n t d = .ok d := by
  intro n
  induction n with
  | zero => intro _ _ _ _ hp; cases hp
  | succ n ih =>
    intro t v d hf hp
    cases t with
    | described ds t => exact ih t v d hf hp
    | optional t =>
      dsimp only [parseAV]
      rcases parseAV_optional hp with ⟨hn, rfl⟩ | ⟨_, hp'⟩
      · rw [if_pos hn]
      · split
        · rfl
        · exact ih t v d hf hp'
    | ref name =>
      obtain ⟨t', hl, hp'⟩ := parseAV_ref hp
      dsimp only [parseAV]
      rw [hl]
      exact ih t' v d (henv name t' hl) hp'
    | array t =>
      obtain ⟨xs, rs, rfl, rfl, hm⟩ := parseAV_array hp
      exact parseAV_array_of (mapM'_idem hm fun x _ y hy => ih t x y hf hy)
    | set t =>
      obtain ⟨xs, rs, rfl, rfl, hm⟩ := parseAV_set hp
      exact parseAV_set_of (mapM'_idem hm fun x _ y hy => ih t x y hf hy)
    | map kt vt =>
      obtain ⟨es, rs, rfl, rfl, hm⟩ := parseAV_map hp
      have hf : pfrag kt = true ∧ pfrag vt = true := Bool.and_eq_true_iff.1 hf
      refine parseAV_map_of (mapM'_idem hm fun e _ y hy => ?_)
      obtain ⟨hk, hv⟩ := parseEntry_ok_iff.1 hy
      exact parseEntry_ok_iff.2 ⟨ih kt e.1 y.1 hf.1 hk, ih vt e.2 y.2 hf.2 hv⟩
    | tuple pre rest =>
      obtain ⟨xs, ps, rs, rfl, rfl, hm, hr, hnone⟩ := parseAV_tuple hp
      obtain ⟨hpre, hrest⟩ := pfrag_tuple hf
      have hlen := mapM'_zip_range_length hm
      refine parseAV_tuple_of (mapM'_zip_range_of_get (zs := rs) (d := .undef) hlen fun q hq => ?_) (fun r e => ?_) hnone
      · exact ih q.1 _ _ (hpre q.1 (List.of_mem_zip hq).1) (mapM'_zip_range_get hm rs .undef q hq)
      · rw [← hlen, List.drop_left]
        exact mapM'_idem (hr r e) fun x _ y hy => ih r x y (hrest r e) hy
    | object props ix =>
      obtain ⟨rfl, hnd, hpp⟩ := pfrag_object hf
      obtain ⟨acc, step, rfl, hfold, hstep⟩ := parseAV_object_input ho hp
      have hsafe : ∀ k t, parseAV.lookupProp' props k = some t → arrayIndex? k = none := by
        intro k t hl
        have hs := (hpp _ (lookupProp'_mem hl)).1
        simp only [safeKey, Bool.and_eq_true, Option.isNone_iff_eq_none] at hs
        exact hs.2
      obtain ⟨hinv, _⟩ := obj_fold' props _ v step acc hfold hstep
      have hnod := obj_fold_nodup props _ v step hstep hsafe v.ownKeys [] acc List.nodup_nil hfold
      dsimp only [parseAV, ownKeys]
      rw [ho]
      simp only [Bool.not_false, if_true]
      rw [rebuild _ acc [] hnod ?_ ?_]
      · rfl
      · intro p hp'
        obtain ⟨_, t, hl, _⟩ := hinv p.1 p.2 (lookupProp_of_mem_nodup hnod p hp')
        exact hsafe _ _ hl
      · intro acc' p hp'
        have hlk := lookupProp_of_mem_nodup hnod p hp'
        obtain ⟨_, t, hl, hpy⟩ := hinv p.1 p.2 hlk
        have hidem := ih t _ p.2 (hpp _ (lookupProp'_mem hl)).2 hpy
        simp only [hl, getProp_obj_of_lookup hlk, hidem]
    | typeof _ | any | nullish _ | const _ | consts _ | regex _ _ | date | bigint | typed _ | strfmt _ | numfmt _ => rfl
    | never | allOf _ | anyOf _ | disc _ _ _ _ => cases hf

/-- **Parsing the parsed value again returns it** (structural fragment, input key order): `parse_twice` for an accepted
input and the default options -/
theorem parse_idem (env : Env) (henv : ∀ name t, env.lookup name = some t → pfrag t = true) :
    ∀ (n : Nat) (t : RT) (v d : JsVal), pfrag t = true → validate env false n t v = .ok true →
      parseAV env ⟨false, false⟩ n t v = .ok d → parseAV env ⟨false, false⟩ n t d = .ok d :=
  fun n t v d hf _ hp => parse_twice env henv ⟨false, false⟩ rfl n t v d hf hp

/-- on the example `exEnv` / `exVal` of `Props/C03Declared` (a recursive type, surplus keys at three places): the parsed value, and the second parse -/
def exParsed : JsVal := .obj [("id", .str "a"), ("kids", .arr [.obj [("id", .str "b"), ("tags", .map [])]]),
  ("tags", .map [(.obj [("k", .str "x")], .num "2")])]
example : parseAV exEnv ⟨false, false⟩ 10 (.ref "Node") exVal = .ok exParsed := by rfl
example : parseAV exEnv ⟨false, false⟩ 10 (.ref "Node") exParsed = .ok exParsed := by rfl

end BeffVerif.C03S
