import BeffVerif.Model.Session
/-!
# C14 — watch-mode rebuilds depend on current file contents only, not on edit history

For EVERY world (parser, compiler), every initial contents and every finite history of updates and rebuilds —
contents that parse, that do not resolve, that do not parse, files that are created on the way — the output of a rebuild in the long-lived session, asked under some settings, is the
output of a fresh session on the current contents under the same settings (`rebuild_eq_fresh`, `history_independent`). The proof is the
invariant "the cache only holds what parsing the current content gives". With the behaviour before fix D66
(`keepStale = true`: a content that does not parse leaves the previous module in the cache) the statement is false:
`stale_module_breaks_history_independence` exhibits a two-step history.
-/
namespace BeffVerif.C14
open BeffVerif.Session

variable {File Content Mod Sett Out : Type} [DecidableEq File]

omit [DecidableEq File] in
theorem inv_fresh (w : World File Content Mod Sett Out) (disk : File → Option Content) : Inv w (fresh disk : State File Content Mod) :=
  fun _ _ h => nomatch h

theorem existing_update (w : World File Content Mod Sett Out) (k : Bool) (s : State File Content Mod) (f : File) (c : Content)
    (h : ¬ (s.disk f).isNone = true) : existing (update w k s f c) = existing s := by
  funext g
  show (if g = f then some c else s.disk g).isSome = (s.disk g).isSome
  split
  · rename_i e
    subst e
    cases hd : s.disk g with
    | none => exact absurd (hd ▸ rfl) h
    | some _ => rfl
  · rfl

theorem inv_update (w : World File Content Mod Sett Out) (s : State File Content Mod) (f : File) (c : Content)
    (h : Inv w s) : Inv w (update w false s f c) := by
  intro g m hg
  show ∃ c', (if g = f then some c else s.disk g) = some c' ∧ w.parse (existing (update w false s f c)) g c' = some m
  change (if g = f then _ else if (s.disk f).isNone then none else s.cache g) = some m at hg
  split at hg
  · -- the updated file: cached only if the new content parses
    rename_i e
    subst e
    refine ⟨c, if_pos rfl, ?_⟩
    split at hg
    · exact hg ▸ ‹_›
    · cases hg
  · -- another file: kept only if the updated file existed before, and then what exists did not change
    split at hg
    · cases hg
    · obtain ⟨c0, hd, hp⟩ := h g m hg
      exact ⟨c0, (if_neg ‹_›).trans hd, existing_update w false s f c ‹_› ▸ hp⟩

omit [DecidableEq File] in
theorem view_of_inv (w : World File Content Mod Sett Out) (s : State File Content Mod) (h : Inv w s) :
    view w s = fun f => (s.disk f).bind (w.parse (existing s) f) := by
  funext f
  unfold view
  split
  · rename_i m hc
    obtain ⟨c, hd, hp⟩ := h f m hc
    rw [hd, Option.bind_some, hp]
  · rfl

theorem inv_rebuild (w : World File Content Mod Sett Out) (s : State File Content Mod) (σ : Sett) (h : Inv w s) :
    Inv w (rebuild w s σ).1 := by
  intro g m hg
  change (if (w.touched σ (view w s)).contains g then view w s g else s.cache g) = some m at hg
  split at hg
  · rw [view_of_inv w s h] at hg
    exact Option.bind_eq_some_iff.1 hg
  · exact h g m hg

theorem disk_rebuild (w : World File Content Mod Sett Out) (s : State File Content Mod) (σ : Sett) : (rebuild w s σ).1.disk = s.disk := rfl

/-- one rebuild: the session answers what a fresh session on the same disk answers under the same settings -/
theorem rebuild_eq_fresh (w : World File Content Mod Sett Out) (s : State File Content Mod) (σ : Sett) (h : Inv w s) :
    (rebuild w s σ).2 = (rebuild w (fresh s.disk : State File Content Mod) σ).2 := by
  show w.extract σ (view w s) = w.extract σ (view w (fresh s.disk))
  rw [view_of_inv w s h, view_of_inv w (fresh s.disk) (inv_fresh w s.disk)]
  rfl

/-- **repeated rebuilds agree**: a rebuild straight after a rebuild, under the same settings and with no update in between,
outputs the same — what the first one cached does not change the answer (the "repeated runs" clause of C10 for a session) -/
theorem rebuild_twice (w : World File Content Mod Sett Out) (s : State File Content Mod) (σ : Sett) (h : Inv w s) :
    (rebuild w (rebuild w s σ).1 σ).2 = (rebuild w s σ).2 := by
  rw [rebuild_eq_fresh w (rebuild w s σ).1 σ (inv_rebuild w s σ h), disk_rebuild, ← rebuild_eq_fresh w s σ h]

/-- the settings of each rebuild of a history, paired with the disk at the time of that rebuild -/
def disksAtRebuilds (w : World File Content Mod Sett Out) : State File Content Mod → List (Op File Content Sett) → List (Sett × (File → Option Content))
  | _, [] => []
  | s, .update f c :: rest => disksAtRebuilds w (update w false s f c) rest
  | s, .rebuild σ :: rest => (σ, s.disk) :: disksAtRebuilds w (rebuild w s σ).1 rest

/-- **History independence.** From any state satisfying the invariant (in particular from a fresh session), for every
history, the k-th rebuild outputs exactly what a fresh session outputs on the file contents of that moment. -/
theorem history_independent (w : World File Content Mod Sett Out) (ops : List (Op File Content Sett)) :
    ∀ (s : State File Content Mod), Inv w s →
      (run w false s ops).2 = (disksAtRebuilds w s ops).map (fun d => (rebuild w (fresh d.2 : State File Content Mod) d.1).2) := by
  induction ops with
  | nil => intro s _; rfl
  | cons op rest ih =>
    intro s h
    cases op with
    | update f c => exact ih _ (inv_update w s f c h)
    | rebuild σ =>
      dsimp only [run, step]
      rw [ih _ (inv_rebuild w s σ h), rebuild_eq_fresh w s σ h]
      rfl

/-- the disk only depends on the updates (so "the file contents of that moment" are the last contents written) -/
theorem disk_after_update (w : World File Content Mod Sett Out) (s : State File Content Mod) (f g : File) (c : Content) :
    (update w false s f c).disk g = if g = f then some c else s.disk g := rfl

-- ---------- the behaviour before fix D66 is history dependent ----------
/-- a witness world that needs one file only: contents are numbers, 0 does not parse, the compiler reports the module of file 0 -/
def demoWorld : World Nat Nat Nat Unit (Option Nat) :=
  { parse := fun _ _ c => if c = 0 then none else some c
    extract := fun _ v => v 0
    touched := fun _ _ => [0] }

/-- before the fix: rebuild (caches content 5), update to a broken content, rebuild → still 5; a fresh session: none -/
theorem stale_module_breaks_history_independence :
    (run demoWorld true (fresh (fun _ => some 5)) [.rebuild (), .update 0 0, .rebuild ()]).2 = [some 5, some 5] ∧
    (rebuild demoWorld (fresh (fun _ => some 0) : State Nat Nat Nat) ()).2 = none := by decide

/-- the same history after the fix -/
example : (run demoWorld false (fresh (fun _ => some 5)) [.rebuild (), .update 0 0, .rebuild ()]).2 = [some 5, none] := by decide

/-- settings are part of the question: a world whose compiler reports whether the format the module asks for (its number)
is among the registered ones — two rebuilds in a row that differ in nothing but the settings answer differently, each as a
fresh session under ITS settings does -/
def fmtWorld : World Nat Nat Nat (List Nat) Bool :=
  { parse := fun _ _ c => some c
    extract := fun σ v => match v 0 with | some m => σ.contains m | none => false
    touched := fun _ _ => [0] }

example : (run fmtWorld false (fresh (fun _ => some 7)) [.rebuild [7], .rebuild [], .rebuild [7, 8]]).2 = [true, false, true] := by decide

/-- files may be CREATED during a session: a world whose parser reports whether file 1 exists (what an import of it resolves
to), compiled from file 0 — after file 1 is created the rebuild sees it, as a fresh session does, because the creation of a
file drops every cached module (the repaired D94; seeds C10-r12 / C14-r12 are the loss of this for a new file that does not parse) -/
def importWorld : World Nat Nat Bool Unit (Option Bool) :=
  { parse := fun ex f _ => if f = 0 then some (ex 1) else some true
    extract := fun _ v => v 0
    touched := fun _ _ => [0] }

example : (run importWorld false (fresh (fun f => if f = 0 then some 1 else none)) [.rebuild (), .update 1 9, .rebuild ()]).2
    = [some false, some true] := by decide

/-- the variant of `update` that drops the cache for a new file only when the new file PARSES (the seeded changes C10-r12 /
C14-r12): a tidy-looking rewrite of `update_file_content_inner` -/
def updateFlushIfParses {File Content Mod Sett Out : Type} [DecidableEq File] (w : World File Content Mod Sett Out)
    (s : State File Content Mod) (f : File) (c : Content) : State File Content Mod :=
  let isNew := (s.disk f).isNone
  let disk' : File → Option Content := fun g => if g = f then some c else s.disk g
  match w.parse (fun h => (disk' h).isSome) f c with
  | some m => { disk := disk', cache := fun g => if g = f then some m else if isNew then none else s.cache g }
  | none => { disk := disk', cache := fun g => if g = f then none else s.cache g }

/-- file 0 imports file 1 (its module says whether the import resolves); the content 0 of file 1 does not parse -/
def importWorld2 : World Nat Nat Bool Unit (Option Bool) :=
  { parse := fun ex f c => if f = 0 then some (ex 1) else if c = 0 then none else some true
    extract := fun _ v => v 0
    touched := fun _ _ => [0] }

/-- … is history dependent: file 1 is created with a content that does not parse; the importer keeps the module it was
bound to while file 1 was missing, where a fresh session resolves the import -/
theorem flush_only_when_new_file_parses_breaks_history_independence :
    let s0 : State Nat Nat Bool := fresh (fun f => if f = 0 then some 1 else none)
    let s1 := (rebuild importWorld2 s0 ()).1
    let s2 := updateFlushIfParses importWorld2 s1 1 0
    (rebuild importWorld2 s2 ()).2 = some false ∧
    (rebuild importWorld2 (fresh s2.disk : State Nat Nat Bool) ()).2 = some true ∧
    (rebuild importWorld2 (update importWorld2 false s1 1 0) ()).2 = some true := by decide

end BeffVerif.C14
