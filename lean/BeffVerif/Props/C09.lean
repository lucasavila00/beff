import BeffVerif.Model.Modules
/-!
# C09 — splitting declarations across modules does not change the result

The module model (`Model/Modules.lean`) mirrors `parse_and_bind`, `get_type_visiting` and the type walkers. This file
states what module resolution means *declaratively* — TypeScript's rules for type names: locals, named / default
imports, explicit exports shadowing `export *`, re-export chains — as inductive relations `Scope` / `Exports`, and
proves that the executable resolution is SOUND for every project, every fuel, every file and every name: whatever
declaration the walker returns is the one the rules derive; when the rules derive nothing, the walker returns `none`
(a diagnostic), never some other declaration.

Proved at full strength: soundness of `resolveType`, `resolveQual` and `resolveName` (plain, default-imported,
qualified `A.B.N` and `import("…").A.N` names; all re-export chains, cyclic `export *` included). Not proved (decided by
the correspondence): completeness on unambiguous acyclic projects, and `flatten (split p σ) ≃ p`.
-/
namespace BeffVerif.C09
open BeffVerif Modules

/-- an entry for `n` in an explicit-export table is found along a path of `export *` edges, and in no table earlier on
that path -/
inductive StarFinds (p : Project) : Mod → String → Exp → Prop
  | here {m n e} : explicitOf m n = some e → StarFinds p m n e
  | there {m n e s m'} : explicitOf m n = none → s ∈ m.stars → p.file s = some m' → StarFinds p m' n e →
      StarFinds p m n e

mutual
/-- file `f` exports the declaration `r` under the name `n` -/
inductive Exports (p : Project) : String → String → String × String → Prop
  | named {f m n e r} : n ≠ "default" → p.file f = some m → StarFinds p m n e → Denotes p e r → Exports p f n r
  | dfltIdent {f m n' r} : p.file f = some m → m.dflt = some (.ident n') → Scope p f n' r → Exports p f "default" r
  | dfltRenamed {f m e r} : p.file f = some m → m.dflt = some (.renamed e) → Denotes p e r → Exports p f "default" r
/-- an export-table entry denotes the declaration `r` -/
inductive Denotes (p : Project) : Exp → String × String → Prop
  | decl {f n} : Denotes p (.decl f n) (f, n)
  | something {n f r} : Exports p f n r → Denotes p (.something n f) r
/-- inside file `f` the type name `n` denotes the declaration `r` -/
inductive Scope (p : Project) : String → String → String × String → Prop
  | loc {f m n} : p.file f = some m → (get m.locals n).isSome = true → Scope p f n (f, n)
  | named {f m n orig f' r} : p.file f = some m → get m.locals n = none → get m.imports n = some (.named orig f') →
      Exports p f' orig r → Scope p f n r
  | dflt {f m n f' r} : p.file f = some m → get m.locals n = none → get m.imports n = some (.dflt f') →
      Exports p f' "default" r → Scope p f n r
end

/-- `get_type_visiting` only ever returns an entry that the `export *` chain really reaches -/
theorem getType_sound (p : Project) : ∀ fuel,
    (∀ visited m n e v, getType p fuel visited m n = (some e, v) → StarFinds p m n e) ∧
    (∀ visited l n e v, getStars p fuel visited l n = (some e, v) →
      ∃ s, s ∈ l ∧ ∃ m', p.file s = some m' ∧ StarFinds p m' n e)
  | 0 => ⟨fun _ _ _ _ _ h => (nomatch h), fun _ _ _ _ _ h => (nomatch h)⟩
  | k+1 => by
    have ih := getType_sound p k
    refine ⟨fun visited m n e v h => ?_, fun visited l n e v h => ?_⟩
    · rw [getType] at h
      split at h
      · rename_i e' hx
        exact .here (hx.trans (Prod.mk.inj h).1)
      · rename_i hx
        obtain ⟨s, hs, m', hm', hf⟩ := ih.2 visited m.stars n e v h
        exact .there hx hs hm' hf
    · have tail {visited} (h : getStars p k visited l.tail n = (some e, v)) :
          ∃ s, s ∈ l ∧ ∃ m', p.file s = some m' ∧ StarFinds p m' n e :=
        let ⟨s, hs, r⟩ := ih.2 _ _ n e v h
        ⟨s, List.mem_of_mem_tail hs, r⟩
      cases l with
      | nil => cases h
      | cons it rest =>
        rw [getStars] at h
        split at h
        · exact tail h
        · split at h
          · cases h
          · rename_i f hf
            split at h
            · rename_i e' v' hg
              exact ⟨it, List.mem_cons_self, f, hf, Option.some.inj (Prod.mk.inj h).1 ▸ ih.1 _ _ _ _ _ hg⟩
            · exact tail h

/-- **Soundness of type-name resolution.** For every project, fuel, file, name and visibility: if the walker returns
a declaration, the declarative rules derive that declaration. -/
theorem resolveType_sound (p : Project) : ∀ fuel f n r,
    (resolveType p fuel f n .loc = some r → Scope p f n r) ∧
    (resolveType p fuel f n .exp = some r → Exports p f n r)
  | 0, _, _, _ => ⟨fun h => (nomatch h), fun h => (nomatch h)⟩
  | k+1, f, n, r => by
    have ih := resolveType_sound p k
    have hExp : ∀ e, fromExpT (resolveType p k) e = some r → Denotes p e r
      | .decl _ _, h => Option.some.inj h ▸ .decl
      | .starOf _, h => nomatch h
      | .something n' f', h => .something ((ih f' n' r).2 h)
    have hDflt (f) (h : fromDefaultT p (resolveType p k) f = some r) : Exports p f "default" r := by
      unfold fromDefaultT at h
      split at h
      · cases h
      · rename_i fm hf
        split at h
        · exact .dfltIdent hf ‹_› ((ih f _ r).1 h)
        · exact .dfltRenamed hf ‹_› (hExp _ h)
        · cases h
    constructor <;> intro h <;> rw [resolveType] at h <;> split at h
    · cases h
    · -- `.loc`: a local, or what an import stands for
      rename_i m hf
      dsimp only at h
      split at h
      · exact Option.some.inj h ▸ .loc hf (‹get m.locals n = some _› ▸ rfl)
      · split at h
        · exact .named hf ‹_› ‹_› ((ih _ _ r).2 h)
        · cases h
        · exact .dflt hf ‹_› ‹_› (hDflt _ h)
        · cases h
    · cases h
    · -- `.exp`: the default export, or an entry found along the `export *` chain
      rename_i m hf
      dsimp only at h
      split at h
      · exact eq_of_beq ‹_› ▸ hDflt f h
      · rename_i hn
        split at h
        · rename_i e he
          exact .named (fun e => hn (beq_of_eq e)) hf ((getType_sound p k).1 _ _ _ _ _ (Prod.ext he rfl)) (hExp e h)
        · cases h

-- ---------- namespace names (`import * as NS`, `export * as NS`, re-exported namespaces) ----------
mutual
/-- file `f` exports, under the name `n`, the namespace of file `g` -/
inductive QExports (p : Project) : String → String → String → Prop
  | named {f m n e g} : n ≠ "default" → p.file f = some m → StarFinds p m n e → QDenotes p e g → QExports p f n g
  | dfltIdent {f m n' g} : p.file f = some m → m.dflt = some (.ident n') → QScope p f n' g → QExports p f "default" g
  | dfltRenamed {f m e g} : p.file f = some m → m.dflt = some (.renamed e) → QDenotes p e g → QExports p f "default" g
/-- an export-table entry denotes the namespace of file `g` -/
inductive QDenotes (p : Project) : Exp → String → Prop
  | starOf {g} : QDenotes p (.starOf g) g
  | something {n f g} : QExports p f n g → QDenotes p (.something n f) g
/-- inside file `f` the name `n` denotes the namespace of file `g` -/
inductive QScope (p : Project) : String → String → String → Prop
  | star {f m n g} : p.file f = some m → get m.locals n = none → get m.imports n = some (.star g) → QScope p f n g
  | named {f m n orig f' g} : p.file f = some m → get m.locals n = none → get m.imports n = some (.named orig f') →
      QExports p f' orig g → QScope p f n g
  | dflt {f m n f' g} : p.file f = some m → get m.locals n = none → get m.imports n = some (.dflt f') →
      QExports p f' "default" g → QScope p f n g
end

/-- **Soundness of namespace resolution** (`QualifiedTypeWalker`) -/
theorem resolveQual_sound (p : Project) : ∀ fuel f n g,
    (resolveQual p fuel f n .loc = some g → QScope p f n g) ∧
    (resolveQual p fuel f n .exp = some g → QExports p f n g)
  | 0, _, _, _ => ⟨fun h => (nomatch h), fun h => (nomatch h)⟩
  | k+1, f, n, g => by
    have ih := resolveQual_sound p k
    have hExp : ∀ e, fromExpQ (resolveQual p k) e = some g → QDenotes p e g
      | .decl _ _, h => nomatch h
      | .starOf _, h => Option.some.inj h ▸ .starOf
      | .something n' f', h => .something ((ih f' n' g).2 h)
    have hDflt (f) (h : fromDefaultQ p (resolveQual p k) f = some g) : QExports p f "default" g := by
      unfold fromDefaultQ at h
      split at h
      · cases h
      · rename_i fm hf
        split at h
        · exact .dfltIdent hf ‹_› ((ih f _ g).1 h)
        · exact .dfltRenamed hf ‹_› (hExp _ h)
        · cases h
    constructor <;> intro h <;> rw [resolveQual] at h <;> split at h
    · cases h
    · -- `.loc`: never a local; a namespace import, or what a named / default import stands for
      rename_i m hf
      dsimp only at h
      split at h
      · cases h
      · split at h
        · exact .named hf ‹_› ‹_› ((ih _ _ g).2 h)
        · exact Option.some.inj h ▸ .star hf ‹_› ‹_›
        · exact .dflt hf ‹_› ‹_› (hDflt _ h)
        · cases h
    · cases h
    · rename_i m hf
      dsimp only at h
      split at h
      · exact eq_of_beq ‹_› ▸ hDflt f h
      · rename_i hn
        split at h
        · rename_i e he
          exact .named (fun e => hn (beq_of_eq e)) hf ((getType_sound p k).1 _ _ _ _ _ (Prod.ext he rfl)) (hExp e h)
        · cases h

/-- a dotted path of namespace names, each an export of the previous namespace -/
inductive QPath (p : Project) : String → List String → String → Prop
  | nil {f} : QPath p f [] f
  | cons {f s g rest h} : QExports p f s g → QPath p g rest h → QPath p f (s :: rest) h

theorem qualPath_sound (p : Project) (fuel : Nat) : ∀ (segs : List String) (f h : String),
    qualPath p fuel f .exp segs = some h → QPath p f segs h
  | [], _, _, hq => Option.some.inj hq ▸ .nil
  | s :: rest, f, h, hq => by
    rw [qualPath] at hq
    split at hq
    · exact .cons ((resolveQual_sound p fuel f s _).2 ‹_›) (qualPath_sound p fuel rest _ h hq)
    · cases hq

/-- what a written name denotes, declaratively: a plain name through the scope of the file; `A.B.N` through the
namespace `A` of the scope, the exported namespaces `B…`, and the export `N` of the last one; `import("f").A.N` the
same starting from the exports of `f` -/
inductive NameDenotes (p : Project) (file : String) : Name → String × String → Prop
  | plain {n r} : Scope p file n r → NameDenotes p file (.plain [n]) r
  | qualified {s rest f g last r} : QScope p file s f → QPath p f rest g → Exports p g last r →
      NameDenotes p file (.plain (s :: rest ++ [last])) r
  | imported {f segs g last r} : QPath p f segs g → Exports p g last r →
      NameDenotes p file (.imp (some f) (segs ++ [last])) r

theorem lastStep_sound (p : Project) (fuel : Nat) (f : String) (segs : List String) (r : String × String)
    (h : (match qualPath p fuel f .exp segs.dropLast with
      | some f' => (segs.getLast?).bind fun n => resolveType p fuel f' n .exp
      | none => none) = some r) :
    ∃ init g last, segs = init ++ [last] ∧ QPath p f init g ∧ Exports p g last r := by
  split at h
  · rename_i g hp
    obtain ⟨last, hl, hr⟩ := Option.bind_eq_some_iff.1 h
    obtain ⟨init, rfl⟩ := List.getLast?_eq_some_iff.1 hl
    rw [List.dropLast_concat] at hp
    exact ⟨init, g, last, rfl, qualPath_sound p fuel _ f g hp, (resolveType_sound p fuel g last r).2 hr⟩
  · cases h

/-- **Soundness of name resolution**: plain, qualified and `import("…")` names all denote what the rules derive -/
theorem resolveName_sound (p : Project) (fuel : Nat) (file : String) (nm : Name) (r : String × String)
    (h : resolveName p fuel file nm = some r) : NameDenotes p file nm r := by
  match nm with
  | .plain [] | .imp none _ | .imp (some _) [] => cases h
  | .plain [s] => exact .plain ((resolveType_sound p fuel file s r).1 h)
  | .plain (s :: s2 :: rest) =>
    dsimp only [resolveName] at h
    split at h
    · rename_i f hq
      obtain ⟨init, g, last, e, hp, hr⟩ := lastStep_sound p fuel f _ r h
      exact e ▸ .qualified ((resolveQual_sound p fuel file s f).1 hq) hp hr
    · cases h
  | .imp (some f) (s :: rest) =>
    obtain ⟨init, g, last, e, hp, hr⟩ := lastStep_sound p fuel f _ r h
    exact e ▸ .imported hp hr

/-- clause 3 of the property ("a reference that TypeScript could not resolve is reported as a diagnostic"), base case: a name that is neither declared nor imported in the file resolves to nothing (the compiler
reports `CannotNotResolveType`) — whatever other files declare under that name -/
theorem unbound_name_is_diagnostic (p : Project) (fuel : Nat) (f n : String) (m : Mod)
    (hf : p.file f = some m) (hl : get m.locals n = none) (hi : get m.imports n = none) :
    resolveType p fuel f n .loc = none := by
  cases fuel with
  | zero => rfl
  | succ k => rw [resolveType, hf]; dsimp only; rw [hl]; dsimp only; rw [hi]

theorem getType_none (p : Project) (m : Mod) (n : String) (hx : explicitOf m n = none) (hs : m.stars = []) :
    ∀ fuel v, (getType p fuel v m n).1 = none
  | 0, _ => rfl
  | k+1, v => by
    rw [getType, show (get m.types n).orElse _ = none from hx, hs]
    cases k <;> rfl

/-- clause 3: importing a name that the target neither exports explicitly nor through `export *` is a diagnostic,
even when the target declares a (non-exported) local of that name -/
theorem unexported_import_is_diagnostic (p : Project) (fuel : Nat) (f n orig f' : String) (m m' : Mod)
    (hf : p.file f = some m) (hl : get m.locals n = none) (hi : get m.imports n = some (.named orig f'))
    (hf' : p.file f' = some m') (hnd : orig ≠ "default")
    (hx : explicitOf m' orig = none) (hs : m'.stars = []) :
    resolveType p fuel f n .loc = none := by
  cases fuel with
  | zero => rfl
  | succ k =>
    rw [resolveType, hf]; dsimp only; rw [hl]; dsimp only; rw [hi]; dsimp only
    cases k with
    | zero => rfl
    | succ j => rw [resolveType, hf']; dsimp only; rw [if_neg (fun h => hnd (eq_of_beq h)), getType_none p m' orig hx hs]

/-- an import whose specifier does not resolve binds nothing -/
theorem unresolvable_specifier_binds_nothing (m : Mod) (l o : String) :
    bindStmt m (.importNamed l o none) = m := rfl

-- ---------- non-vacuity: a concrete four-file project with a renamed re-export chain and a name collision ----------
def demo : List SrcFile := [
  ⟨"entry.ts", [.importNamed "X" "Y" (some "hub.ts"), .decl false (.alias "Same" [] (.kw "string"))]⟩,
  ⟨"hub.ts", [.exportAll (some "other.ts"), .exportFrom "Same" "Y" (some "lib.ts")]⟩,
  ⟨"lib.ts", [.decl false (.alias "Same" [] (.kw "number")), .exportLocal "Same" "Same"]⟩,
  ⟨"other.ts", [.decl true (.alias "Y" [] (.kw "boolean")), .exportAll (some "hub.ts")]⟩]

/-- `X` in entry.ts is lib.ts's `Same` (through the renaming hub, explicit export before the cyclic `export *`),
entry.ts's own `Same` is kept apart -/
example : resolveType (demo.map bind) 10 "entry.ts" "X" .loc = some ("lib.ts", "Same") ∧
    resolveType (demo.map bind) 10 "entry.ts" "Same" .loc = some ("entry.ts", "Same") ∧
    resolveType (demo.map bind) 10 "entry.ts" "Y" .loc = none := by decide +kernel

example : Scope (demo.map bind) "entry.ts" "X" ("lib.ts", "Same") :=
  (resolveType_sound _ 10 _ _ _).1 (by decide +kernel)

end BeffVerif.C09
