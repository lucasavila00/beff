import BeffVerif.Model.Hash
/-!
# C13 — the 32-bit `hash()`: alias hops are transparent; member order is not (D108)

`hash32_alias_hop`: a reference to a name that is just another name (`type A = B`, possibly under a doc comment) hashes as
what it stands for — the alias-boundary clause of the property for alias hops (the repaired D101). `hash32_member_order`:
the kernel-checked witness of the recorded D108 — the members of a union are folded in the order they stand, so
`string | number` and `number | string`, built with `b.*`, hash differently although the property lists member order among
the things `hash()` ignores.
-/
namespace BeffVerif.C13N
open BeffVerif RT

theorem hash32_alias_hop (env : Env) (n : Nat) (name other : String) (to : RT) (seen : List String)
    (hl : env.lookup name = some to) (hs : stripDesc to = .ref other) :
    RT.hash env (n+1) (.ref name) seen = RT.hash env n to seen := by
  dsimp only [RT.hash]
  rw [hl]
  dsimp only
  rw [hs]

/-- D108 (recorded): the 32-bit hash of a union depends on the order of its members -/
theorem hash32_member_order :
    RT.hash [] 5 (.anyOf [.typeof "string", .typeof "number"]) [] ≠ RT.hash [] 5 (.anyOf [.typeof "number", .typeof "string"]) [] := by
  decide +kernel

end BeffVerif.C13N
