import BeffVerif.Lemmas.Dnf
/-!
# C06 — the four Boolean operations are TOTAL on the diagrams the engine can build

The Rust operations (`bdd.rs`) recurse on RESULTS of other operations, so their termination is not structural; the model
gives them fuel. Here: on ORDERED diagrams (atoms strictly increase from the root — what `from_atom` builds and what every
operation preserves) over a finite set `U` of atoms, fuel `|U| + 2` is enough for `union`, `intersect`, `complement`,
`diff`, and the results are again ordered diagrams over `U`. Hence every diagram reachable from atoms by any script of
operations is ordered, and no operation of such a script ever runs out of fuel (`script_total`): the model's `none`
is unreachable, and the recursion of the real code terminates, with nesting depth at most the number of atoms.
-/
namespace BeffVerif.C06T
open Bdd

variable {U : List Atom}

def lt (a b : Atom) : Prop := a.kind < b.kind ∨ (a.kind = b.kind ∧ a.idx < b.idx)

theorem lt_trans {a b c : Atom} (h1 : lt a b) (h2 : lt b c) : lt a c := by
  rcases h1 with h1 | ⟨e1, h1⟩ <;> rcases h2 with h2 | ⟨e2, h2⟩
  · exact .inl (Nat.lt_trans h1 h2)
  · exact .inl (e2 ▸ h1)
  · exact .inl (e1 ▸ h2)
  · exact .inr ⟨e1.trans e2, Nat.lt_trans h1 h2⟩

theorem lt_irrefl (a : Atom) : ¬ lt a a := by
  unfold lt; omega

theorem cmp_lt (a b : Atom) : Atom.cmp a b = .lt ↔ lt a b := by
  rcases Atom.cmp_cases a b with ⟨e, h'⟩ | ⟨e, rfl⟩ | ⟨e, h'⟩ <;> rw [e]
  · exact ⟨fun _ => h', fun _ => rfl⟩
  · exact ⟨nofun, fun h => absurd h (lt_irrefl a)⟩
  · exact ⟨nofun, fun h => absurd (lt_trans h h') (lt_irrefl a)⟩

theorem cmp_gt (a b : Atom) : Atom.cmp a b = .gt ↔ lt b a := by
  rcases Atom.cmp_cases a b with ⟨e, h'⟩ | ⟨e, rfl⟩ | ⟨e, h'⟩ <;> rw [e]
  · exact ⟨nofun, fun h => absurd (lt_trans h h') (lt_irrefl b)⟩
  · exact ⟨nofun, fun h => absurd h (lt_irrefl a)⟩
  · exact ⟨fun _ => h', fun _ => rfl⟩

/-- number of atoms of `U` at or above `a` -/
def above (U : List Atom) (a : Atom) : Nat := U.countP (fun x => Atom.cmp a x != .gt)

theorem countP_lt_of_mem {α : Type} {p q : α → Bool} {a : α} {l : List α} (h : ∀ x, p x → q x) (ha : a ∈ l)
    (hq : q a) (hp : ¬ p a) : l.countP p < l.countP q := by
  induction l with
  | nil => cases ha
  | cons x l ih =>
    have hm : l.countP p ≤ l.countP q := List.countP_mono_left fun x _ => h x
    rw [List.countP_cons, List.countP_cons]
    rcases List.mem_cons.1 ha with rfl | ha
    · rw [if_pos hq, if_neg hp]; exact Nat.lt_succ_of_le hm
    · by_cases hx : p x
      · rw [if_pos hx, if_pos (h x hx)]; exact Nat.succ_lt_succ (ih ha)
      · rw [if_neg hx]; exact Nat.lt_of_lt_of_le (ih ha) (Nat.le_add_right _ _)

theorem above_lt {a a' : Atom} (ha : a ∈ U) (h : lt a a') : above U a' < above U a := by
  refine countP_lt_of_mem (fun x hx => ?_) ha (by rw [Atom.cmp_self]; rfl) (by rw [(cmp_gt a' a).2 h]; nofun)
  -- an atom at or above `a'` is at or above `a`
  rw [bne_iff_ne] at *
  exact fun hg => hx ((cmp_gt a' x).2 (lt_trans ((cmp_gt a x).1 hg) h))

theorem above_pos {a : Atom} (ha : a ∈ U) : 0 < above U a :=
  List.countP_pos_iff.2 ⟨a, ha, by rw [Atom.cmp_self]; rfl⟩

/-- `a` is below the root atom of `b` -/
def Lt (a : Atom) : Bdd → Prop
  | node a' _ _ _ => lt a a'
  | _ => True

inductive Ordered : Bdd → Prop
  | tt : Ordered tt
  | ff : Ordered ff
  | node (a : Atom) (l m r : Bdd) : Ordered l → Ordered m → Ordered r → Lt a l → Lt a m → Lt a r → Ordered (node a l m r)

def AtomsIn (U : List Atom) : Bdd → Prop
  | node a l m r => a ∈ U ∧ AtomsIn U l ∧ AtomsIn U m ∧ AtomsIn U r
  | _ => True

structure Good (U : List Atom) (b : Bdd) : Prop where
  ord : Ordered b
  ins : AtomsIn U b

def rank (U : List Atom) : Bdd → Nat
  | node a _ _ _ => above U a
  | _ => 0

theorem good_tt (U : List Atom) : Good U tt := ⟨.tt, trivial⟩
theorem good_ff (U : List Atom) : Good U ff := ⟨.ff, trivial⟩

theorem Lt_trans {a0 a : Atom} {b : Bdd} (h0 : lt a0 a) (h : Lt a b) : Lt a0 b := by
  cases b with
  | node a' l m r => exact lt_trans h0 h
  | tt => trivial
  | ff => trivial

theorem rank_lt {a : Atom} {b : Bdd} (ha : a ∈ U) (h : Lt a b) : rank U b < above U a := by
  cases b with
  | node a' l m r => exact above_lt ha h
  | tt => exact above_pos ha
  | ff => exact above_pos ha

/-- a good diagram all of whose atoms lie above `a` in the atom order, so that it may hang below a node at `a` (whence the
name): the children of a good node at `a`, and every intermediate result in an arm of an operation that builds a node at `a` -/
def Below (U : List Atom) (a : Atom) (b : Bdd) : Prop := Good U b ∧ Lt a b

theorem below_ff (U : List Atom) (a : Atom) : Below U a ff := ⟨good_ff U, trivial⟩

theorem good_node {a : Atom} {l m r : Bdd} (h : Good U (node a l m r)) :
    a ∈ U ∧ Below U a l ∧ Below U a m ∧ Below U a r := by
  obtain ⟨ho, hi⟩ := h
  cases ho with
  | node _ _ _ _ ol om or' ll lm lr =>
    exact ⟨hi.1, ⟨⟨ol, hi.2.1⟩, ll⟩, ⟨⟨om, hi.2.2.1⟩, lm⟩, ⟨⟨or', hi.2.2.2⟩, lr⟩⟩

theorem mk_good_node {a : Atom} {l m r : Bdd} (ha : a ∈ U) (bl : Below U a l) (bm : Below U a m)
    (br : Below U a r) : Good U (node a l m r) :=
  ⟨.node a l m r bl.1.ord bm.1.ord br.1.ord bl.2 bm.2 br.2, ha, bl.1.ins, bm.1.ins, br.1.ins⟩

/-- what an operation promises about its result: a good diagram whose root is not below the roots of the operands -/
def Post2 (U : List Atom) (b1 b2 r : Bdd) : Prop := Good U r ∧ ∀ a, Lt a b1 → Lt a b2 → Lt a r
def Post1 (U : List Atom) (b r : Bdd) : Prop := Good U r ∧ ∀ a, Lt a b → Lt a r

def Tot (o : Option Bdd) (P : Bdd → Prop) : Prop := ∃ r, o = some r ∧ P r

theorem Tot.bind {o : Option Bdd} {f : Bdd → Option Bdd} {P Q : Bdd → Prop} (h : Tot o P) (hf : ∀ x, P x → Tot (f x) Q) :
    Tot (o.bind f) Q := by
  obtain ⟨x, rfl, hx⟩ := h
  exact hf x hx

/-- The rank and fuel arithmetic of the four inductions. `op` stands for an operation at fuel `n` (`union n`, …; `d` is the
extra fuel it asks for: 1 for `diff`, else 0). If `op` is total on good operands of every rank `k'` with `k' + d < n`, then on
operands in `Below U a`, for an atom `a` of rank at most `k` with `k + d ≤ n`, it returns a diagram in `Below U a` — the
recursive calls of every arm are one rank down. -/
theorem below_closed {k n d : Nat} {op : Bdd → Bdd → Option Bdd}
    (h : ∀ k', k' + d < n → ∀ b1 b2, Good U b1 → Good U b2 → rank U b1 ≤ k' → rank U b2 ≤ k' →
      ∃ r, op b1 b2 = some r ∧ Post2 U b1 b2 r)
    (hn : k + d ≤ n) {a : Atom} (ha : a ∈ U) (hk : above U a ≤ k) {x y : Bdd} (hx : Below U a x) (hy : Below U a y) :
    Tot (op x y) (Below U a) := by
  obtain ⟨r, hr, g, hl⟩ := h (above U a - 1)
    (Nat.lt_of_lt_of_le (Nat.add_lt_add_right (Nat.sub_one_lt_of_le (above_pos ha) hk) d) hn) x y hx.1 hy.1
    (Nat.le_sub_one_of_lt (rank_lt ha hx.2)) (Nat.le_sub_one_of_lt (rank_lt ha hy.2))
  exact ⟨r, hr, g, hl a hx.2 hy.2⟩

def UnionOK (U : List Atom) (k n : Nat) : Prop :=
  ∀ b1 b2, Good U b1 → Good U b2 → rank U b1 ≤ k → rank U b2 ≤ k → ∃ r, union n b1 b2 = some r ∧ Post2 U b1 b2 r

/-- `from_node` over children above `a`; the result is good for any operands one of which has root `a` (`hb`) -/
theorem fromNode_below {k n : Nat} (hu : ∀ k', k' < n → UnionOK U k' n) (hn : k ≤ n) {a : Atom} (ha : a ∈ U)
    (hk : above U a ≤ k) {b1 b2 : Bdd} (hb : ∀ a0, Lt a0 b1 → Lt a0 b2 → lt a0 a) {l m r : Bdd} (bl : Below U a l)
    (bm : Below U a m) (br : Below U a r) : Tot (fromNode n a l m r) (Post2 U b1 b2) := by
  unfold fromNode fromNodeWith
  by_cases h1 : m = tt
  · exact ⟨tt, if_pos h1, good_tt U, fun _ _ _ => trivial⟩
  by_cases h2 : l = r
  · rw [if_neg h1, if_pos h2, h2]
    exact (below_closed (d := 0) hu hn ha hk br bm).imp fun res hres =>
      ⟨hres.1, hres.2.1, fun a0 h1 h2 => Lt_trans (hb a0 h1 h2) hres.2.2⟩
  · rw [if_neg h1, if_neg h2]
    exact ⟨_, rfl, mk_good_node ha bl bm br, hb⟩

theorem union_total (U : List Atom) : ∀ n k, k < n → UnionOK U k n := by
  intro n
  induction n with
  | zero => intro k hk; cases hk
  | succ n ih =>
    intro k hk b1 b2 g1 g2 r1 r2
    have hn := Nat.le_of_lt_succ hk
    induction b1, b2 using pairCases with
    | self b => exact ⟨_, union_self n b, g1, fun _ h _ => h⟩
    | lt a1 l1 m1 r1' a2 l2 m2 r2' hc =>
      obtain ⟨ha, bl, bm, br⟩ := good_node g1
      rw [union_lt n hc]
      exact (below_closed (d := 0) ih hn ha r1 bm ⟨g2, (cmp_lt _ _).1 hc⟩).bind fun m hm =>
        fromNode_below ih hn ha r1 (by exact fun _ h _ => h) bl hm br
    | eq a l1 m1 r1' l2 m2 r2' hne =>
      obtain ⟨ha, bl1, bm1, br1⟩ := good_node g1
      obtain ⟨-, bl2, bm2, br2⟩ := good_node g2
      have V := @below_closed U k n (d := 0) _ ih hn a ha r1
      rw [union_eq n hne]
      exact (V bl1 bl2).bind fun l hl => (V bm1 bm2).bind fun m hm => (V br1 br2).bind fun r hr =>
        fromNode_below ih hn ha r1 (by exact fun _ h _ => h) hl hm hr
    | gt a1 l1 m1 r1' a2 l2 m2 r2' hc =>
      obtain ⟨ha, bl, bm, br⟩ := good_node g2
      rw [union_gt n hc]
      exact (below_closed (d := 0) ih hn ha r2 ⟨g1, (cmp_gt a1 a2).1 hc⟩ bm).bind fun m hm =>
        fromNode_below ih hn ha r2 (by exact fun _ _ h => h) bl hm br
    -- a leaf on either side: the result is one of the operands
    | _ => exact ⟨_, rfl, by assumption, fun _ _ _ => by assumption⟩

def InterOK (U : List Atom) (k n : Nat) : Prop :=
  ∀ b1 b2, Good U b1 → Good U b2 → rank U b1 ≤ k → rank U b2 ≤ k → ∃ r, intersect n b1 b2 = some r ∧ Post2 U b1 b2 r

theorem intersect_total (U : List Atom) : ∀ n k, k < n → InterOK U k n := by
  intro n
  induction n with
  | zero => intro k hk; cases hk
  | succ n ih =>
    intro k hk b1 b2 g1 g2 r1 r2
    have hn := Nat.le_of_lt_succ hk
    have I := @below_closed U k n (d := 0) _ ih hn
    have V := @below_closed U k n (d := 0) _ (union_total U n) hn
    have F := @fromNode_below U k n (union_total U n) hn
    induction b1, b2 using pairCases with
    | self b => exact ⟨_, intersect_self n b, g1, fun _ h _ => h⟩
    | lt a1 l1 m1 r1' a2 l2 m2 r2' hc =>
      obtain ⟨ha, bl, bm, br⟩ := good_node g1
      have b2 := And.intro g2 ((cmp_lt _ _).1 hc)
      rw [intersect_lt n hc]
      exact (I ha r1 bl b2).bind fun l hl => (I ha r1 bm b2).bind fun m hm => (I ha r1 br b2).bind fun r hr =>
        F ha r1 (by exact fun _ h _ => h) hl hm hr
    | eq a l1 m1 r1' l2 m2 r2' hne =>
      obtain ⟨ha, bl1, bm1, br1⟩ := good_node g1
      obtain ⟨-, bl2, bm2, br2⟩ := good_node g2
      rw [intersect_eq n hne]
      exact (V ha r1 bl1 bm1).bind fun x1 hx1 => (V ha r1 bl2 bm2).bind fun x2 hx2 => (V ha r1 br1 bm1).bind fun y1 hy1 =>
        (V ha r1 br2 bm2).bind fun y2 hy2 => (I ha r1 hx1 hx2).bind fun l hl => (I ha r1 hy1 hy2).bind fun r hr =>
        F ha r1 (by exact fun _ h _ => h) hl (below_ff U a) hr
    | gt a1 l1 m1 r1' a2 l2 m2 r2' hc =>
      obtain ⟨ha, bl, bm, br⟩ := good_node g2
      have b1 := And.intro g1 ((cmp_gt a1 a2).1 hc)
      rw [intersect_gt n hc]
      exact (I ha r2 b1 bl).bind fun l hl => (I ha r2 b1 bm).bind fun m hm => (I ha r2 b1 br).bind fun r hr =>
        F ha r2 (by exact fun _ _ h => h) hl hm hr
    | _ => exact ⟨_, rfl, by assumption, fun _ _ _ => by assumption⟩

def ComplOK (U : List Atom) (k n : Nat) : Prop :=
  ∀ b, Good U b → rank U b ≤ k → ∃ r, complement n b = some r ∧ Post1 U b r

theorem complement_total (U : List Atom) : ∀ n k, k < n → ComplOK U k n := by
  intro n
  induction n with
  | zero => intro k hk; cases hk
  | succ n ih =>
    intro k hk b g rk
    cases b with
    | tt => exact ⟨ff, rfl, good_ff U, fun _ _ => trivial⟩
    | ff => exact ⟨tt, rfl, good_tt U, fun _ _ => trivial⟩
    | node a l m r =>
      obtain ⟨ha, bl, bm, br⟩ := good_node g
      have hn := Nat.le_of_lt_succ hk
      have V := @below_closed U k n (d := 0) _ (union_total U n) hn a ha rk
      have F := @fromNode_below U k n (union_total U n) hn a ha rk
        (node a l m r) (node a l m r) fun _ h _ => h
      -- `complement` as a binary operation that ignores its second operand
      have C := @below_closed U k n 0 (fun x _ => complement n x) (fun k' h b _ g _ rb _ =>
        (ih k' h b g rb).imp fun _ hr => ⟨hr.1, hr.2.1, fun a h1 _ => hr.2.2 a h1⟩) hn a ha rk
      -- `F` ends in `Post2 b b` for `b = node a l m r`, which is `Post1 b`
      refine Exists.imp (p := fun res => _ ∧ Post2 U (node a l m r) (node a l m r) res)
        (fun res h => ⟨h.1, h.2.1, fun a0 h0 => h.2.2 a0 h0 h0⟩) ?_
      by_cases hr : r = ff
      · subst hr
        rw [complement_right_ff]
        exact (V bl bm).bind fun lm hlm => (C hlm hlm).bind fun x hx => (C bm bm).bind fun y hy => F (below_ff U a) hx hy
      by_cases hl : l = ff
      · subst hl
        rw [complement_left_ff n hr]
        exact (V br bm).bind fun rm hrm => (C bm bm).bind fun x hx => (C hrm hrm).bind fun y hy => F hx hy (below_ff U a)
      by_cases hm : m = ff
      · subst hm
        rw [complement_mid_ff n hr hl]
        exact (V bl br).bind fun lr hlr => (C bl bl).bind fun x hx => (C hlr hlr).bind fun y hy => (C br br).bind fun z hz =>
          F hx hy hz
      · rw [complement_node n hr hl hm]
        exact (V bl bm).bind fun lm hlm => (V br bm).bind fun rm hrm => (C hlm hlm).bind fun x hx => (C hrm hrm).bind fun y hy =>
          F hx (below_ff U a) hy

def DiffOK (U : List Atom) (k n : Nat) : Prop :=
  ∀ b1 b2, Good U b1 → Good U b2 → rank U b1 ≤ k → rank U b2 ≤ k → ∃ r, diff n b1 b2 = some r ∧ Post2 U b1 b2 r

/-- `diff` hands `tt \ b` to `complement` at the same rank, hence one more unit of fuel -/
theorem diff_total (U : List Atom) : ∀ n k, k + 1 < n → DiffOK U k n := by
  intro n
  induction n with
  | zero => intro k hk; cases hk
  | succ n ih =>
    intro k hk b1 b2 g1 g2 r1 r2
    have hn := Nat.le_of_lt_succ hk
    have D := @below_closed U k n (d := 1) _ ih hn
    have V := @below_closed U k n (d := 0) _ (union_total U n) (Nat.le_of_succ_le hn)
    have F := @fromNode_below U k n (union_total U n) (Nat.le_of_succ_le hn)
    induction b1, b2 using pairCases with
    | self b => exact ⟨_, diff_self n b, good_ff U, fun _ _ _ => trivial⟩
    | tt_node =>
      obtain ⟨r, hr, gr, hl⟩ := complement_total U n k hn _ g2 r2
      exact ⟨r, hr, gr, fun a _ h => hl a h⟩
    | node_tt => exact ⟨_, rfl, good_ff U, fun _ _ _ => trivial⟩
    | lt a1 l1 m1 r1' a2 l2 m2 r2' hc =>
      obtain ⟨ha, bl, bm, br⟩ := good_node g1
      have b2 := And.intro g2 ((cmp_lt _ _).1 hc)
      rw [diff_lt n hc]
      exact (V ha r1 bl bm).bind fun x hx => (V ha r1 br bm).bind fun y hy => (D ha r1 hx b2).bind fun l hl =>
        (D ha r1 hy b2).bind fun r hr => F ha r1 (by exact fun _ h _ => h) hl (below_ff U a1) hr
    | eq a l1 m1 r1' l2 m2 r2' hne =>
      obtain ⟨ha, bl1, bm1, br1⟩ := good_node g1
      obtain ⟨-, bl2, bm2, br2⟩ := good_node g2
      rw [diff_eq n hne]
      exact (V ha r1 bl1 bm1).bind fun x1 hx1 => (V ha r1 bl2 bm2).bind fun x2 hx2 => (V ha r1 br1 bm1).bind fun y1 hy1 =>
        (V ha r1 br2 bm2).bind fun y2 hy2 => (D ha r1 hx1 hx2).bind fun l hl => (D ha r1 hy1 hy2).bind fun r hr =>
        F ha r1 (by exact fun _ h _ => h) hl (below_ff U a) hr
    | gt a1 l1 m1 r1' a2 l2 m2 r2' hc =>
      obtain ⟨ha, bl, bm, br⟩ := good_node g2
      have b1 := And.intro g1 ((cmp_gt a1 a2).1 hc)
      rw [diff_gt n hc]
      exact (V ha r2 bl bm).bind fun x hx => (V ha r2 br bm).bind fun y hy => (D ha r2 b1 hx).bind fun l hl =>
        (D ha r2 b1 hy).bind fun r hr => F ha r2 (by exact fun _ _ h => h) hl (below_ff U a2) hr
    | _ => exact ⟨_, rfl, by assumption, fun _ _ _ => by assumption⟩

theorem rank_le (U : List Atom) (b : Bdd) : rank U b ≤ U.length := by
  cases b with
  | node a l m r => exact List.countP_le_length
  | tt => exact Nat.zero_le _
  | ff => exact Nat.zero_le _

theorem good_fromAtom {a : Atom} (ha : a ∈ U) : Good U (fromAtom a) :=
  mk_good_node ha ⟨good_tt U, trivial⟩ (below_ff U a) (below_ff U a)

/-- the diagrams the engine can build: atoms, constants, and the four operations -/
inductive Expr where
  | atom (a : Atom)
  | tt
  | ff
  | union (e1 e2 : Expr)
  | inter (e1 e2 : Expr)
  | diff (e1 e2 : Expr)
  | compl (e : Expr)

def Expr.atoms : Expr → List Atom
  | .atom a => [a]
  | .tt | .ff => []
  | .union e1 e2 | .inter e1 e2 | .diff e1 e2 => e1.atoms ++ e2.atoms
  | .compl e => e.atoms

/-- run a script with the modelled operations at fuel `n` -/
def run (n : Nat) : Expr → Option Bdd
  | .atom a => some (fromAtom a)
  | .tt => some Bdd.tt
  | .ff => some Bdd.ff
  | .union e1 e2 => match run n e1, run n e2 with
    | some x, some y => Bdd.union n x y
    | _, _ => none
  | .inter e1 e2 => match run n e1, run n e2 with
    | some x, some y => Bdd.intersect n x y
    | _, _ => none
  | .diff e1 e2 => match run n e1, run n e2 with
    | some x, some y => Bdd.diff n x y
    | _, _ => none
  | .compl e => match run n e with
    | some x => Bdd.complement n x
    | none => none

/-- the Boolean function a script denotes -/
def Expr.eval (ρ : Atom → Bool) : Expr → Bool
  | .atom a => ρ a
  | .tt => true
  | .ff => false
  | .union e1 e2 => e1.eval ρ || e2.eval ρ
  | .inter e1 e2 => e1.eval ρ && e2.eval ρ
  | .diff e1 e2 => e1.eval ρ && !e2.eval ρ
  | .compl e => !e.eval ρ

theorem fuel_lt (U : List Atom) : U.length < U.length + 2 := Nat.lt_add_of_pos_right (by decide)

theorem good_of_total {op : Bdd → Bdd → Option Bdd}
    (h : ∀ x y, Good U x → Good U y → rank U x ≤ U.length → rank U y ≤ U.length → ∃ r, op x y = some r ∧ Post2 U x y r)
    {x y : Bdd} (gx : Good U x) (gy : Good U y) : Tot (op x y) (Good U) :=
  (h x y gx gy (rank_le U x) (rank_le U y)).imp fun _ h => ⟨h.1, h.2.1⟩

theorem complement_good {x : Bdd} (gx : Good U x) : Tot (complement (U.length + 2) x) (Good U) :=
  (complement_total U _ _ (fuel_lt U) x gx (rank_le U x)).imp fun _ h => ⟨h.1, h.2.1⟩

/-- one binary constructor of `script_total`; `h1`, `h2` are its induction hypotheses -/
theorem run_binop {op : Bdd → Bdd → Option Bdd} {f : Bool → Bool → Bool}
    (tot : ∀ {x y}, Good U x → Good U y → Tot (op x y) (Good U))
    (sound : ∀ ρ {x y r}, op x y = some r → Bdd.eval ρ r = f (Bdd.eval ρ x) (Bdd.eval ρ y))
    {o1 o2 : Option Bdd} {v1 v2 : (Atom → Bool) → Bool} {A1 A2 : List Atom} (h : ∀ a ∈ A1 ++ A2, a ∈ U)
    (h1 : (∀ a ∈ A1, a ∈ U) → ∃ b, o1 = some b ∧ Good U b ∧ ∀ ρ, Bdd.eval ρ b = v1 ρ)
    (h2 : (∀ a ∈ A2, a ∈ U) → ∃ b, o2 = some b ∧ Good U b ∧ ∀ ρ, Bdd.eval ρ b = v2 ρ) :
    ∃ b, (match o1, o2 with | some x, some y => op x y | _, _ => none) = some b ∧ Good U b ∧
      ∀ ρ, Bdd.eval ρ b = f (v1 ρ) (v2 ρ) := by
  obtain ⟨x, rfl, gx, ex⟩ := h1 fun a ha => h a (List.mem_append_left _ ha)
  obtain ⟨y, rfl, gy, ey⟩ := h2 fun a ha => h a (List.mem_append_right _ ha)
  obtain ⟨r, hr, gr⟩ := tot gx gy
  exact ⟨r, hr, gr, fun ρ => by rw [sound ρ hr, ex, ey]⟩

/-- **C06 (totality)**: every script over atoms of `U` runs to completion with fuel `|U| + 2`, its result is an ordered
diagram over `U` — and (with the exactness lemmas) denotes exactly the Boolean combination the script spells -/
theorem script_total (U : List Atom) : ∀ (e : Expr), (∀ a ∈ e.atoms, a ∈ U) →
    ∃ b, run (U.length + 2) e = some b ∧ Good U b ∧ ∀ ρ, Bdd.eval ρ b = e.eval ρ := by
  intro e
  induction e with
  | atom a => exact fun h => ⟨_, rfl, good_fromAtom (h a (List.mem_singleton_self a)), fun ρ => eval_fromAtom ρ a⟩
  | tt => exact fun _ => ⟨_, rfl, good_tt U, fun _ => rfl⟩
  | ff => exact fun _ => ⟨_, rfl, good_ff U, fun _ => rfl⟩
  | union e1 e2 ih1 ih2 =>
    exact fun h => run_binop (good_of_total (union_total U _ _ (fuel_lt U))) (fun ρ => union_sound ρ) h ih1 ih2
  | inter e1 e2 ih1 ih2 =>
    exact fun h => run_binop (good_of_total (intersect_total U _ _ (fuel_lt U))) (fun ρ => intersect_sound ρ) h ih1 ih2
  | diff e1 e2 ih1 ih2 =>
    exact fun h => run_binop (f := fun x y => x && !y) (good_of_total (diff_total U _ _ (Nat.lt_succ_self _))) (fun ρ => diff_sound ρ)
      h ih1 ih2
  | compl e ih =>
    intro h
    obtain ⟨x, hx, gx, ex⟩ := ih h
    obtain ⟨r, hr, gr⟩ := complement_good gx
    exact ⟨r, by simp only [run, hx, hr], gr, fun ρ => by rw [complement_sound ρ hr, ex]; rfl⟩

/-- … in particular with `U` = the atoms the script mentions: no hypothesis left -/
theorem bdd_ops_total_of_ordered (e : Expr) :
    ∃ b, run (e.atoms.length + 2) e = some b ∧ ∀ ρ, Bdd.eval ρ b = e.eval ρ := by
  obtain ⟨b, hb, _, he⟩ := script_total e.atoms e (fun _ h => h)
  exact ⟨b, hb, he⟩

theorem conjPos_total (U : List Atom) : ∀ (as : List Atom) (b : Bdd), (∀ a ∈ as, a ∈ U) → Good U b →
    ∃ r, Dnf.conjPos (U.length + 2) as b = some r ∧ Good U r
  | [], b, _, g => ⟨b, rfl, g⟩
  | a :: as, b, h, g => by
    rw [Dnf.conjPos_cons]
    exact (good_of_total (intersect_total U _ _ (fuel_lt U)) g (good_fromAtom (h a List.mem_cons_self))).bind fun x gx =>
      conjPos_total U as x (fun c hc => h c (List.mem_cons_of_mem _ hc)) gx

theorem conjNeg_total (U : List Atom) : ∀ (as : List Atom) (b : Bdd), (∀ a ∈ as, a ∈ U) → Good U b →
    ∃ r, Dnf.conjNeg (U.length + 2) as b = some r ∧ Good U r
  | [], b, _, g => ⟨b, rfl, g⟩
  | a :: as, b, h, g => by
    rw [Dnf.conjNeg_cons]
    exact (complement_good (good_fromAtom (h a List.mem_cons_self))).bind fun na gna =>
      (good_of_total (intersect_total U _ _ (fuel_lt U)) g gna).bind fun x gx =>
      conjNeg_total U as x (fun c hc => h c (List.mem_cons_of_mem _ hc)) gx

/-- rebuilding a diagram from clauses over `U` never runs out of fuel -/
theorem toBdd_total (U : List Atom) : ∀ (d : Dnf) (b : Bdd), (∀ c ∈ d, (∀ a ∈ c.pos, a ∈ U) ∧ (∀ a ∈ c.neg, a ∈ U)) → Good U b →
    ∃ r, Dnf.toBddAcc (U.length + 2) d b = some r ∧ Good U r := by
  intro d
  induction d with
  | nil => intro b _ g; exact ⟨b, rfl, g⟩
  | cons c cs ih =>
    intro b h g
    obtain ⟨hp, hn⟩ := h c List.mem_cons_self
    rw [Dnf.toBddAcc_cons]
    exact Tot.bind (conjPos_total U c.pos .tt hp (good_tt U)) fun p gp => Tot.bind (conjNeg_total U c.neg p hn gp) fun cb gcb =>
      (good_of_total (union_total U _ _ (fuel_lt U)) g gcb).bind fun x gx => ih x (fun c' hc' => h c' (List.mem_cons_of_mem _ hc')) gx

private def a0 : Atom := ⟨0, 0⟩
private def a1 : Atom := ⟨0, 1⟩
private def a2 : Atom := ⟨1, 0⟩

/-- a script that exercises all four operations runs, at exactly the fuel of the theorem -/
example : (run 5 (.diff (.union (.atom a0) (.inter (.atom a1) (.compl (.atom a2)))) (.atom a1))).isSome = true := by
  decide +kernel

/-- fuel is needed: the same script does not finish with fuel 1 -/
example : run 1 (.diff (.union (.atom a0) (.inter (.atom a1) (.compl (.atom a2)))) (.atom a1)) = none := by
  decide +kernel

/-- `Ordered` is a restriction: a diagram with the same atom again in a child is not `Ordered` -/
example : ¬ Ordered (node a0 (node a0 tt ff ff) ff ff) := by
  intro h
  cases h with
  | node _ _ _ _ _ _ _ ll _ _ => exact lt_irrefl a0 ll

end BeffVerif.C06T
