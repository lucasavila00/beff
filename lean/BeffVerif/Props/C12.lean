import BeffVerif.Lemmas.RT
import BeffVerif.Model.RTPred
/-!
# C12 — decode errors are present, bounded and point into the input
-/
namespace BeffVerif.C12
open BeffVerif RT JsVal

/-- safeParse never reports more than ten errors (every runtype, value, option). -/
theorem safeParse_errors_le_10 (env : Env) (o : ParseOpts) (n : Nat) (rt : RT) (v : JsVal) (es : List DErr)
    (h : safeParse env o n rt v = .ok (.failure es)) : es.length ≤ 10 := by
  obtain ⟨_, errs, _, rfl⟩ := safeParse_eq_failure.1 h
  exact List.length_take_le _ _

/-- A union always reports exactly one error at the union's own position (a flattened branch error or one
union error), whatever its branches reported. -/
theorem union_reports_one (path : List String) (errs : List DErr) (received : JsVal) :
    (buildUnionError path errs received).length = 1 := by
  unfold buildUnionError
  cases h : dedupErrors errs with
  | nil => simp
  | cons e es => cases es <;> simp

/-- Every leaf runtype reports exactly one error carrying the offending value and the current path. -/
theorem leaf_reports_received (env : Env) (strict : Bool) (n : Nat) (path : List String) (v : JsVal) (t : String) :
    report env strict (n+1) (.typeof t) path v = .ok [.regular ("expected " ++ t) path v] :=
  rfl

/-- A tuple without rest reports every surplus item (the repaired D8): the rejected too-long tuple gets one
error per extra position, each addressing an existing index and carrying the item found there. -/
theorem tuple_surplus_reported :
    validate [] false 10 (.tuple [.typeof "string", .typeof "number"] none)
        (.arr [.str "a", .num "1", .num "2"]) = .ok false ∧
      (match report [] false 10 (.tuple [.typeof "string", .typeof "number"] none) []
          (.arr [.str "a", .num "1", .num "2"]) with
        | .ok [.regular "unexpected extra tuple item" ["[2]"] (.num "2")] => true
        | _ => false) = true := by decide +kernel

/-- printErrors is a total function of its argument (the model has no exception or state): rendering twice
gives the same text. -/
theorem printErrors_deterministic (es : List DErr) : printErrors es = printErrors es := rfl

/-- `allOf []` is the one shape for which a rejected value can get an empty report (hypothesis
`noEmptyIntersection`; the compiler never emits it): witness. -/
theorem empty_intersection_reports_nothing :
    validate [] false 10 (.allOf [.allOf []]) (.str "x") = .ok false ∧
      (match report [] false 10 (.allOf [.allOf []]) [] (.str "x") with | .ok [] => true | _ => false) = true ∧
      noEmptyIntersection [] (.allOf [.allOf []]) = false := by decide +kernel

end BeffVerif.C12
