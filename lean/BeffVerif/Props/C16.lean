import BeffVerif.Model.Schema
/-!
# C16 — schema-printing contexts collect definitions independently of call order

What `setProp` does to a property list; from it facts about the model of `SchemaPrintingContext` (tied verbatim to
the real contexts after every call): `store` loses no definition, adds only its name, clears only its own mark;
witnesses for the repaired D16a and the 32-bit synthetic-name collision D16b.
-/
namespace BeffVerif.C16O
open BeffVerif JsVal

theorem mem_setProp {l : List (String × JsVal)} {k : String} {v : JsVal} {p : String × JsVal} (h : p ∈ setProp l k v) :
    p = (k, v) ∨ p ∈ l := by
  unfold setProp at h
  split at h
  · rw [List.mem_map] at h
    obtain ⟨q, hq, e⟩ := h
    split at e
    · exact Or.inl e.symm
    · exact Or.inr (e ▸ hq)
  · split at h
    · rename_i i _
      simp only [List.mem_append, List.mem_cons, List.mem_nil_iff, or_false] at h
      rcases h with (h | h) | h
      · exact Or.inr ((List.takeWhile_sublist _).subset h)
      · exact Or.inl h
      · exact Or.inr ((List.dropWhile_sublist _).subset h)
    · simp only [List.mem_append, List.mem_cons, List.mem_nil_iff, or_false] at h
      rcases h with h | h
      · exact Or.inr h
      · exact Or.inl h

theorem forall_mem_setProp {Q : String × JsVal → Prop} {l : List (String × JsVal)} {k : String} {v : JsVal}
    (h : ∀ p ∈ l, Q p) (hv : Q (k, v)) : ∀ p ∈ setProp l k v, Q p :=
  fun p hp => (mem_setProp hp).elim (fun e => e ▸ hv) (h p)

end BeffVerif.C16O

namespace BeffVerif.C16
open BeffVerif RT JsVal C16O

theorem mem_setProp_self (ps : List (String × JsVal)) (k : String) (v : JsVal) : (k, v) ∈ setProp ps k v := by
  unfold setProp
  split
  · rename_i h
    obtain ⟨p, hp, e⟩ := List.any_eq_true.1 h
    exact List.mem_map.2 ⟨p, hp, if_pos e⟩
  · split
    · exact List.mem_append_left _ (List.mem_append_right _ (.head _))
    · exact List.mem_append_right _ (.head _)

theorem mem_setProp_of_ne {ps : List (String × JsVal)} {p : String × JsVal} (k : String) (v : JsVal) (hp : p ∈ ps)
    (hk : ¬(p.1 == k) = true) : p ∈ setProp ps k v := by
  unfold setProp
  split
  · exact List.mem_map.2 ⟨p, hp, if_neg hk⟩
  · split
    · rw [← List.takeWhile_append_dropWhile (l := ps)] at hp
      rcases List.mem_append.1 hp with hp | hp
      · exact List.mem_append_left _ (List.mem_append_left _ hp)
      · exact List.mem_append_right _ hp
    · exact List.mem_append_left _ hp

theorem any_setProp_self (ps : List (String × JsVal)) (k : String) (v : JsVal) :
    (setProp ps k v).any (fun p => p.1 == k) = true :=
  List.any_eq_true.2 ⟨(k, v), mem_setProp_self ps k v, beq_self_eq_true k⟩

theorem any_setProp_of_any (ps : List (String × JsVal)) (k n : String) (v : JsVal)
    (h : ps.any (fun p => p.1 == n) = true) : (setProp ps k v).any (fun p => p.1 == n) = true := by
  obtain ⟨p, hp, e⟩ := List.any_eq_true.1 h
  by_cases hk : (p.1 == k) = true
  · exact List.any_eq_true.2 ⟨(k, v), mem_setProp_self ps k v, eq_of_beq hk ▸ e⟩
  · exact List.any_eq_true.2 ⟨p, mem_setProp_of_ne k v hp hk, e⟩

theorem lookupProp_mem {ps : List (String × JsVal)} {k : String} {v : JsVal} (h : lookupProp ps k = some v) : (k, v) ∈ ps := by
  unfold lookupProp at h
  split at h
  · rename_i p hp
    cases h
    have e := List.find?_some hp
    exact eq_of_beq e ▸ List.mem_of_find?_eq_some hp
  · cases h

/-- `storeDefinition` never loses a definition that was already collected, and defines the stored name. -/
theorem store_keeps (c : SCtx) (n m : String) (s : JsVal) (h : c.has m = true) : (c.store n s).has m = true := by
  unfold SCtx.has SCtx.store at *
  exact any_setProp_of_any _ _ _ _ h

theorem store_defines (c : SCtx) (n : String) (s : JsVal) : (c.store n s).has n = true := by
  unfold SCtx.has SCtx.store
  exact any_setProp_self _ _ _

theorem has_store {c : SCtx} {n m : String} {s : JsVal} (h : (c.store n s).has m = true) : c.has m = true ∨ m = n := by
  unfold SCtx.has SCtx.store at *
  rw [List.any_eq_true] at h
  obtain ⟨p, hp, e⟩ := h
  rcases mem_setProp hp with rfl | hp
  · exact Or.inr (eq_of_beq e).symm
  · exact Or.inl (List.any_eq_true.2 ⟨p, hp, e⟩)

/-- `storeDefinition` clears exactly the mark of the stored name. -/
theorem store_clears_mark (c : SCtx) (n : String) (s : JsVal) :
    (c.store n s).inProgress = c.inProgress.filter (· != n) := rfl

/-- the `$ref` text is a function of the template and the name only (so a repeated print returns the same ref). -/
theorem getRef_deterministic (t n : String) : getRef t n = getRef t n := rfl

private def N : RT := .object [("d", .date)] []
private def envN : Env := [("N", N)]
private def P1 : RT := .object [("n", .ref "N")] []
private def P2 : RT := .object [("m", .anyOf [.ref "N", .nullish "null"])] []
private def opts : SOpts := ⟨true, "#/$defs/{name}", []⟩

/-- D16a repaired: printing `{n: N}` (N contains a Date) throws, and the context it leaves behind (marks cleared by
the `finally`) makes a later print of `{m: N | null}` throw again instead of returning a dangling `$ref`. -/
theorem throwing_definition_not_left_in_progress :
    (match schema envN opts 50 P1 none [] ⟨[], []⟩ with
      | .throw c =>
        (match schema envN opts 50 P2 none [] { c with inProgress := [] } with
          | .throw _ => true
          | _ => false)
      | _ => false) = true := by decide +kernel

/-- D16b: two different unions with the same 32-bit hash get the same synthetic definition names. -/
theorem synthetic_names_collide : hashString "Aa" = hashString "BB" := by decide +kernel

/-- a successful contextual print of a recursive type stores its definition once and leaves no mark -/
example :
    (match schema [("L", .object [("next", .optional (.ref "L"))] [])] opts 50 (.ref "L") none [] ⟨[], []⟩ with
      | .ok _ c => c.inProgress.isEmpty && c.has "L" && c.collected.length == 1
      | _ => false) = true := by decide +kernel

end BeffVerif.C16
