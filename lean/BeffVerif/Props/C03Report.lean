import BeffVerif.Props.C03NoThrow
import BeffVerif.Props.C12Received
/-!
# C03 — building the error report never throws in a closed environment

`report_no_throw`: if every reference of the runtype and of the environment resolves, `reportDecodeError` never ends in
an exception, for every mode, fuel, path and value. With `validate_no_throw`: the failure branch of `safeParse`
(validate answered false, the report is built) cannot end in an exception — `safeParse_failure_branch_no_throw`.
The success branch (`parseAfterValidation` after a successful validate) is in `Props/C03Parse`; the rendering `printErrors`
of `parse` is a total function in the model.
-/
namespace BeffVerif.C03
open BeffVerif RT C12

theorem report_holds (env : Env) (strict : Bool) (henv : ∀ name t, env.lookup name = some t → Closed env t) :
    ∀ n rt path v, Closed env rt → (report env strict n rt path v).Holds (fun es => ∀ e ∈ es, Loc path v e) fun _ => False
  | 0, _, _, _, _ => trivial
  | n+1, rt, path, v, hc => by
    rw [report_succ]
    exact reportStep_loc env strict rt path v
      (fun t ht x => Res.holds_of_ne_throw fun c => validate_no_throw env strict henv n t x c (ht.anyNode_false henv hc))
      (fun t ht p x => report_holds env strict henv n t p x (ht.anyNode_false henv hc))
      (fun _ e hl => (e ▸ hc).ref hl)

/-- **No foreign exception while reporting**: in a closed environment `reportDecodeError` never throws -/
theorem report_no_throw (env : Env) (strict : Bool) (henv : ∀ name t, env.lookup name = some t → Closed env t)
    (n : Nat) (rt : RT) (path : List String) (v : JsVal) (c : String) (hc : Closed env rt) :
    report env strict n rt path v ≠ .throw c :=
  (report_holds env strict henv n rt path v hc).ne_throw c

/-- the failure branch of `safeParse`: once `validate` has answered false, nothing throws -/
theorem safeParse_failure_branch_no_throw (env : Env) (o : ParseOpts)
    (henv : ∀ name t, env.lookup name = some t → Closed env t) (n : Nat) (rt : RT) (v : JsVal) (hc : Closed env rt)
    (hv : validate env o.strict n rt v = .ok false) (c : String) : safeParse env o n rt v ≠ .throw c := by
  intro h
  rcases safeParse_eq_throw.1 h with e | ⟨e, _⟩ | ⟨_, e⟩
  · cases hv.symm.trans e
  · cases hv.symm.trans e
  · exact report_no_throw env o.strict henv n rt [] v c hc e

end BeffVerif.C03
