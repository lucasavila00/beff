import BeffVerif.Model.Emit
import BeffVerif.Lemmas.Sort
import BeffVerif.Props.C04
/-!
# C10 — compilation output is a deterministic function of the sources

A Lean function is deterministic by construction, so process-level nondeterminism (hash seeds, addresses, time,
threads) cannot be exhibited by a model. What Lean carries: (1) every site of the regenerated inventory of hash-container
iterations and process-dependent sources is in the justified list — a new site breaks the obligation and
triggers the search; (2) the logic that makes emission independent of unordered containers: sorting. For any total
order, sorting a permutation of the input gives the same list, so every order in which files / definitions were
registered yields the same emission order.
-/
namespace BeffVerif.C10
open BeffVerif JsVal

/-- every hash-container iteration / process-dependent source of the CURRENT tree is a known, justified site -/
theorem nondet_sites_known : Emit.sitesOk = true :=
  -- the same sites in the same order (cf. `C04.sites_eq`)
  have h : Gen.nondetSites.map C04.siteKey = Emit.knownSites.map C04.siteKey := rfl
  C04.all_any_of_mem (fun _ hs => h ▸ List.mem_map_of_mem hs) fun s k (e : C04.siteKey k = C04.siteKey s) =>
    (beq_iff_eq.2 e : (C04.siteKey k == C04.siteKey s) = true)

/-- an instance, on `Nat` with `≤` (non-vacuity of the hypotheses) -/
example : sortBy (fun (a b : Nat) => decide (a ≤ b)) [3, 1, 2] = sortBy (fun (a b : Nat) => decide (a ≤ b)) [2, 3, 1] :=
  emit_order_independent _ (by intro a b; simp; omega) (by intro a b c; simp; omega) (by intro a b; simp; omega)
    _ _ (by decide)

end BeffVerif.C10
