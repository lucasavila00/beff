import BeffVerif.Model.ToSchema
/-!
# C07 — semantically computed types reach code generation unchanged in meaning

`Model/ToSchema.lean` is a port of the materialisation (to_schema.rs), of `remove_nots_of_intersections_and_empty_of_union`,
of `keyof` / indexed access on type vectors (bdd.rs) and of the frontend glue for `Exclude`, `keyof` and `T[K]`.
The reference meaning of the three operators is TypeScript's (Model/SubSpec.lean: `Exclude` distributes over the union
members and keeps those not assignable to the second operand; `keyof` of a union keeps the common keys; `T[K]`
distributes over unions).

That the materialisation DENOTES the computed set is not proved in general (the functions are monadic, mutually recursive
and go through the smart constructors `any_of` / `all_of`); proved for all inputs are printability (`C07Print`), the helper
names (`C07Names`) and `keyof` / `T[k]` of one object type (`C07Keyof`, `C07Idx`). The
statements below are closed witnesses checked by the kernel, those with a defect number the regression tests of repaired
defects, and the correspondence + reference oracle decide the property per generated instance.
-/
namespace BeffVerif.C07
open BeffVerif Sem

/-- the materialised type and its helper definitions, as injective text keys (`IR.key`; `IR` has no decidable equality) -/
def materialise (t : SemType) (c : Ctx := {}) : Option (String × List (String × String)) :=
  (semtypeToRuntype 100 t 0 c).map fun r => (IR.key r.1.1, r.1.2.1.map fun p => (p.1, IR.key p.2))

def k (t : IR) : String := IR.key t

/-- D2: `number` minus the literals 1 and 2 is materialised as `number` — no negation, not "everything" -/
theorem excluded_numbers_widen_to_number :
    materialise { never with num := .some ⟨false, ["1", "2"]⟩ } = some (k .number, []) := by decide +kernel

/-- `boolean` minus `true` is materialised as `false`; a single literal as that constant -/
theorem literal_sets_are_exact :
    materialise { never with bool := .some false } = some (k (.const (.bool false)), []) ∧
    materialise { never with num := .some ⟨true, ["1"]⟩ } = some (k (.const (.num "1")), []) := by
  constructor <;> decide +kernel

/-- the context of `type T = [string, ...T[]]` (one list atom whose rest is the atom itself) -/
def recTupleCtx : Ctx :=
  { lists := [some ⟨[{ never with str := .all }], listFromIdx 0⟩], refL := [("T", 0)] }

/-- D72: a type that refers to itself is handed over as a reference to a helper definition that exists, exactly once,
under a generated name (before the fix: a reference to the undefined name "AnyName") -/
theorem recursive_result_keeps_its_definition :
    materialise (listFromIdx 0) recTupleCtx =
      some (k (.ref "RecursiveGenerated1"), [("RecursiveGenerated1", k (.tuple [.string] (some (.ref "RecursiveGenerated1"))))]) := by
  decide +kernel

/-- `keyof` of one object type: its declared keys -/
theorem keyof_object_keys :
    ((keyofSem (mappingFromIdx 0)) { mappings := [some ⟨[("a", { never with null := true }), ("b", { never with num := .all })], none⟩] }).map (·.1)
      = some { never with str := .some ⟨true, ["a", "b"]⟩ } := by decide +kernel

/-- D71: `({ [k: string]: "a" })["b"]` is `"a"` although the object type declares no property -/
theorem indexed_access_under_index_signature :
    (mappingMemberType ⟨[], some { never with str := .some ⟨true, ["a"]⟩ }⟩ (.lits true ["b"]))
      = some { never with str := .some ⟨true, ["a"]⟩ } := by decide +kernel

end BeffVerif.C07
