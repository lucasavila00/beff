import Std.Data.String.ToNat
import BeffVerif.Props.C03Idem
import BeffVerif.Props.C12Nonempty
/-!
# C03 — the `objectKeyOrder` option changes key order only

`KEq d1 d2`: the two values are equal up to the order of object keys, at every depth — the same arrays, Sets and Maps
position by position, and for two objects the same keys with related values (`lookupProp`: objects built by the parse
step have no key twice). `key_order_only`: on the structural fragment `pfrag` of `Props/C03Declared`, with declared
property names that are not numerals (`NoNum`: a typed array has its indices as own keys), for every environment, EVERY
value, every fuel and either strictness: if the parse step returns `d1` with `objectKeyOrder: "input"` and `d2` with
`"sorted"`, then `KEq d1 d2`; `parse_options_keq` says it of any two option records. The object case compares the two
results through `parse_object`: both hold exactly the declared keys that are own properties of the input (for a safe key
that is no numeral the two key orders mean the same by that: `hasOwn_iff_mem_ownKeys`), each with the parse of the same
sub-value.
-/
namespace BeffVerif.C03S
open BeffVerif RT JsVal C02F C11F

/-- two lists related position by position; an inductive (not the recursive `Pairwise2`) so that `KEq` may nest it -/
inductive All2 {α β : Type} (R : α → β → Prop) : List α → List β → Prop
  | nil : All2 R [] []
  | cons {a b as bs} : R a b → All2 R as bs → All2 R (a :: as) (b :: bs)

theorem All2.append {α β : Type} {R : α → β → Prop} {as1 as2 : List α} {bs1 bs2 : List β} (h1 : All2 R as1 bs1)
    (h2 : All2 R as2 bs2) : All2 R (as1 ++ as2) (bs1 ++ bs2) := by
  induction h1 with
  | nil => exact h2
  | cons hr _ ih => exact .cons hr ih

theorem All2.map_both {α β γ δ : Type} {R : α → β → Prop} {S : γ → δ → Prop} {f : α → γ} {g : β → δ} {as : List α} {bs : List β}
    (h : All2 R as bs) (hfg : ∀ a b, R a b → S (f a) (g b)) : All2 S (as.map f) (bs.map g) := by
  induction h with
  | nil => exact .nil
  | cons hr _ ih => exact .cons (hfg _ _ hr) ih

theorem all2_mapM' {α β : Type} {f g : α → Res β} {R : β → β → Prop} {xs : List α} : ∀ {ys zs : List β},
    mapM' f xs = .ok ys → mapM' g xs = .ok zs → (∀ x ∈ xs, ∀ y z, f x = .ok y → g x = .ok z → R y z) → All2 R ys zs := by
  induction xs with
  | nil => intro _ _ h1 h2 _; cases h1; cases h2; exact .nil
  | cons x xs ih =>
    intro _ _ h1 h2 h
    obtain ⟨y, ys', e1, h1', rfl⟩ := mapM'_cons_ok h1
    obtain ⟨z, zs', e2, h2', rfl⟩ := mapM'_cons_ok h2
    exact .cons (h x List.mem_cons_self y z e1 e2) (ih h1' h2' fun x' hx' => h x' (List.mem_cons_of_mem _ hx'))

/-- equal up to the order of object keys, at every depth -/
inductive KEq : JsVal → JsVal → Prop
  | refl (v : JsVal) : KEq v v
  | arr {xs ys : List JsVal} : All2 KEq xs ys → KEq (.arr xs) (.arr ys)
  | set {xs ys : List JsVal} : All2 KEq xs ys → KEq (.set xs) (.set ys)
  | map {es fs : List (JsVal × JsVal)} : All2 KEq (es.map (·.1)) (fs.map (·.1)) → All2 KEq (es.map (·.2)) (fs.map (·.2)) →
      KEq (.map es) (.map fs)
  | obj {a b : List (String × JsVal)} : (∀ k, (lookupProp a k).isSome = (lookupProp b k).isSome) →
      (∀ k y1 y2, lookupProp a k = some y1 → lookupProp b k = some y2 → KEq y1 y2) → KEq (.obj a) (.obj b)

/-- an object type one of whose declared property names is a numeral -/
def numKeyed : RT → Bool
  | .object props _ => props.any (fun p => p.1.isNat)
  | _ => false

def NoNum (t : RT) : Prop := anyNode numKeyed t = false

/-- an own key of an object that is no array is an own property; for a typed array only under a numeral -/
theorem hasOwn_of_mem_ownKeys {v : JsVal} {k : String} (hobj : (v.isObjectLike && !v.isArray) = true) (hk : k ∈ v.ownKeys)
    (hnum : k.isNat = false) : v.hasOwn k = true := by
  cases v with
  | obj props =>
    simp only [ownKeys] at hk
    simp only [hasOwn, getOwn?]
    exact lookupProp_isSome_of_mem hk
  | typed c items =>
    simp only [ownKeys, List.mem_map, List.mem_range] at hk
    obtain ⟨i, _, e⟩ := hk
    have : k.isNat = true := by rw [← e]; exact Nat.isNat_repr i
    rw [this] at hnum; cases hnum
  | arr items => simp [isArray] at hobj
  | _ => simp [ownKeys] at hk

/-- a value that is no object (or is an array) has no safe, non-numeral own property -/
theorem no_own_of_not_object {v : JsVal} {k : String} (hobj : ¬ (v.isObjectLike && !v.isArray) = true) (hs : safeKey k = true)
    (hnum : k.isNat = false) : k ∉ v.ownKeys ∧ v.hasOwn k = false := by
  simp only [safeKey, Bool.and_eq_true, Bool.not_eq_true', bne_iff_ne, ne_eq, Option.isNone_iff_eq_none] at hs
  obtain ⟨⟨⟨_, hlen⟩, _⟩, hidx⟩ := hs
  cases v with
  | arr items =>
    refine ⟨?_, ?_⟩
    · intro hk
      simp only [ownKeys, List.mem_map, List.mem_range] at hk
      obtain ⟨i, _, e⟩ := hk
      have : k.isNat = true := by rw [← e]; exact Nat.isNat_repr i
      rw [this] at hnum; cases hnum
    · have hl : (k == "length") = false := by simpa using hlen
      simp [hasOwn, getOwn?, hl, hidx]
  | obj _ | typed _ _ => simp [isObjectLike, typeOf, isArray] at hobj
  | protoObj kind =>
    have hk : kind = "Array" := by simpa [isObjectLike, typeOf, isArray] using hobj
    subst hk
    refine ⟨by simp [ownKeys], ?_⟩
    rw [hasOwn, getOwn_protoObj "Array" k hlen]
    rfl
  | _ => simp [ownKeys, hasOwn, getOwn?]

theorem hasOwn_iff_mem_ownKeys {v : JsVal} {k : String} (hs : safeKey k = true) (hnum : k.isNat = false) :
    v.hasOwn k = true ↔ k ∈ v.ownKeys := by
  by_cases hobj : (v.isObjectLike && !v.isArray) = true
  · refine ⟨fun ho => Decidable.byContradiction fun hk => ?_, fun hk => hasOwn_of_mem_ownKeys hobj hk hnum⟩
    rw [hasOwn, getOwn_none_of_safe v k hs hobj hk] at ho
    cases ho
  · obtain ⟨h1, h2⟩ := no_own_of_not_object hobj hs hnum
    exact ⟨fun ho => absurd (h2 ▸ ho) Bool.false_ne_true, fun hk => absurd hk h1⟩

theorem noNum_object {props : List (String × RT)} {ix : List (RT × RT)} (h : NoNum (.object props ix)) :
    ∀ p ∈ props, p.1.isNat = false := by
  simp only [NoNum, anyNode, numKeyed, Bool.or_eq_false_iff, List.any_eq_false, Bool.not_eq_true] at h
  exact h.1.1

theorem parse_options_keq (env : Env) (henv : ∀ name t, env.lookup name = some t → pfrag t = true ∧ NoNum t)
    (o1 o2 : ParseOpts) :
    ∀ (n : Nat) (t : RT) (v d1 d2 : JsVal), pfrag t = true → NoNum t →
      parseAV env o1 n t v = .ok d1 → parseAV env o2 n t v = .ok d2 → KEq d1 d2 := by
  intro n
  induction n with
  | zero => intro _ _ _ _ _ _ h1; cases h1
  | succ n ih =>
    intro t v d1 d2 hf hnn h1 h2
    have sub : ∀ {t' : RT}, Child env t t' → NoNum t' := fun hc =>
      hc.anyNode_false (fun name t hl => (henv name t hl).2) hnn
    cases t with
    | described ds t => exact ih t v d1 d2 hf (sub .described) h1 h2
    | optional t =>
      rcases parseAV_optional h1 with ⟨hn, e1⟩ | ⟨hn, h1'⟩
      · rcases parseAV_optional h2 with ⟨_, e2⟩ | ⟨hn', _⟩
        · rw [e1, e2]; exact .refl v
        · rw [hn] at hn'; cases hn'
      · rcases parseAV_optional h2 with ⟨hn', _⟩ | ⟨_, h2'⟩
        · rw [hn] at hn'; cases hn'
        · exact ih t v d1 d2 hf (sub .optional) h1' h2'
    | ref name =>
      obtain ⟨t1, hl1, h1'⟩ := parseAV_ref h1
      obtain ⟨t2, hl2, h2'⟩ := parseAV_ref h2
      cases hl1.symm.trans hl2
      exact ih t1 v d1 d2 (henv name t1 hl1).1 (sub (.ref hl1)) h1' h2'
    | array t =>
      obtain ⟨xs, rs1, rfl, rfl, hm1⟩ := parseAV_array h1
      obtain ⟨_, rs2, e, rfl, hm2⟩ := parseAV_array h2
      cases e
      exact .arr (all2_mapM' hm1 hm2 fun x _ y z hy hz => ih t x y z hf (sub .array) hy hz)
    | set t =>
      obtain ⟨xs, rs1, rfl, rfl, hm1⟩ := parseAV_set h1
      obtain ⟨_, rs2, e, rfl, hm2⟩ := parseAV_set h2
      cases e
      exact .set (all2_mapM' hm1 hm2 fun x _ y z hy hz => ih t x y z hf (sub .set) hy hz)
    | map kt vt =>
      obtain ⟨es, rs1, rfl, rfl, hm1⟩ := parseAV_map h1
      obtain ⟨_, rs2, e, rfl, hm2⟩ := parseAV_map h2
      cases e
      have hf : pfrag kt = true ∧ pfrag vt = true := Bool.and_eq_true_iff.1 hf
      have hall := all2_mapM' (R := fun (p q : JsVal × JsVal) => KEq p.1 q.1 ∧ KEq p.2 q.2) hm1 hm2 fun e _ y z hy hz => by
        obtain ⟨hk1, hv1⟩ := parseEntry_ok_iff.1 hy
        obtain ⟨hk2, hv2⟩ := parseEntry_ok_iff.1 hz
        exact ⟨ih kt e.1 y.1 z.1 hf.1 (sub .mapKey) hk1 hk2, ih vt e.2 y.2 z.2 hf.2 (sub .mapVal) hv1 hv2⟩
      exact .map (hall.map_both fun _ _ h => h.1) (hall.map_both fun _ _ h => h.2)
    | tuple pre rest =>
      obtain ⟨xs, ps1, rs1, rfl, rfl, hm1, hr1, hnone1⟩ := parseAV_tuple h1
      obtain ⟨_, ps2, rs2, e, rfl, hm2, hr2, hnone2⟩ := parseAV_tuple h2
      cases e
      obtain ⟨hpre, hrest⟩ := pfrag_tuple hf
      refine .arr (All2.append (all2_mapM' hm1 hm2 fun p hp y z hy hz => ?_) ?_)
      · have hmem : p.1 ∈ pre := (List.of_mem_zip hp).1
        exact ih p.1 _ y z (hpre _ hmem) (sub (.tuplePre hmem)) hy hz
      · cases rest with
        | none => rw [hnone1 rfl, hnone2 rfl]; exact .nil
        | some r => exact all2_mapM' (hr1 r rfl) (hr2 r rfl) fun x _ y z hy hz => ih r x y z (hrest r rfl) (sub .tupleRest) hy hz
    | object props ix =>
      obtain ⟨rfl, hnd, hpp⟩ := pfrag_object hf
      have hnprops := noNum_object hnn
      obtain ⟨acc1, own1, ho1, rfl, hinv1, hcov1⟩ := parse_object h1
      obtain ⟨acc2, own2, ho2, rfl, hinv2, hcov2⟩ := parse_object h2
      have hown : ∀ own : String → Prop, (own = (· ∈ v.ownKeys) ∨ own = (v.hasOwn · = true)) →
          ∀ k t, parseAV.lookupProp' props k = some t → (own k ↔ v.hasOwn k = true) := by
        intro own ho k t hl
        have hm := lookupProp'_mem hl
        rcases ho with rfl | rfl
        · exact (hasOwn_iff_mem_ownKeys (hpp _ hm).1 (hnprops _ hm)).symm
        · exact Iff.rfl
      refine .obj (fun k => ?_) fun k y1 y2 hg1 hg2 => ?_
      · cases hg1 : lookupProp acc1 k with
        | some y1 =>
          obtain ⟨hk, t, hl, _⟩ := hinv1 k y1 hg1
          exact (hcov2 k ((hown own2 ho2 k t hl).2 ((hown own1 ho1 k t hl).1 hk)) (by rw [hl]; rfl)).symm
        | none =>
          cases hg2 : lookupProp acc2 k with
          | none => rfl
          | some y2 =>
            obtain ⟨hk, t, hl, _⟩ := hinv2 k y2 hg2
            have := hcov1 k ((hown own1 ho1 k t hl).2 ((hown own2 ho2 k t hl).1 hk)) (by rw [hl]; rfl)
            rw [hg1] at this
            cases this
      · obtain ⟨_, t1, hl1, hp1⟩ := hinv1 k y1 hg1
        obtain ⟨_, t2, hl2, hp2⟩ := hinv2 k y2 hg2
        cases hl1.symm.trans hl2
        have hm := lookupProp'_mem hl1
        exact ih t1 _ y1 y2 (hpp _ hm).2 (sub (.prop hm)) hp1 hp2
    | typeof _ | any | nullish _ | const _ | consts _ | regex _ _ | date | bigint | typed _ | strfmt _ | numfmt _ =>
      cases h1
      cases h2
      exact .refl v
    | never | allOf _ | anyOf _ | disc _ _ _ _ => cases hf

/-- the statement for `objectKeyOrder: "input"` against `"sorted"` under one strictness -/
theorem key_order_only (env : Env) (henv : ∀ name t, env.lookup name = some t → pfrag t = true ∧ NoNum t) (s : Bool) :
    ∀ (n : Nat) (t : RT) (v d1 d2 : JsVal), pfrag t = true → NoNum t →
      parseAV env ⟨s, false⟩ n t v = .ok d1 → parseAV env ⟨s, true⟩ n t v = .ok d2 → KEq d1 d2 :=
  parse_options_keq env henv ⟨s, false⟩ ⟨s, true⟩

private def exT : RT := .object [("b", .typeof "string"), ("a", .array (.object [("y", .typeof "number"), ("x", .typeof "number")] []))] []
private def exV : JsVal := .obj [("b", .str "s"), ("extra", .num "1"), ("a", .arr [.obj [("y", .num "1"), ("x", .num "2")]])]

/-- non-vacuity: the two key orders really differ on this input (the theorem says: in nothing but the order) -/
example : pfrag exT = true ∧
    (match parseAV [] ⟨false, false⟩ 9 exT exV with | .ok (.obj kvs) => kvs.map (·.1) == ["b", "a"] | _ => false) = true ∧
    (match parseAV [] ⟨false, true⟩ 9 exT exV with | .ok (.obj kvs) => kvs.map (·.1) == ["a", "b"] | _ => false) = true := by
  decide +kernel

end BeffVerif.C03S
