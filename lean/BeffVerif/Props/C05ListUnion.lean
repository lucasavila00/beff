import BeffVerif.Props.C05Tuple
/-!
# C05 — fixed-length lists against a UNION of fixed-length lists: `fixed_length_list_inhabited` is exact

The list analogue of `Props/C05Union.lean`. `list_inhabited` looks at one length at a time; at a given length the positive
list and the applicable negative lists are lists of types of that length, and `fixed_length_list_inhabited` searches a value
of the positive one outside ALL the negative ones (`Witness`; `fixed_many`). It is a backtracking search:
the value may have to leave the first negative list at one position and the second at a LATER one
(`[boolean, boolean]` against `[true, true] | [false, boolean]`: `[true, false]`), which is what the seeded change C05-r8
(no backtracking) loses; here it is `sem_step_l`: a value of `s` outside `nt` leaves it at some position `i`, where it lies in
`s[i] \ nt[i]`, so the search continues from `s` with position `i` narrowed (`C05Tuple.fixed_loop`, induction on the negative
lists).
-/
namespace BeffVerif.C05ListUnion
open BeffVerif Sem C05 C05Flat C05Tuple Bdd

/-- a list of scalar values lies in a list of types, position by position (the lengths are those of the types) -/
def inAll (ts : List SemType) (vs : List Scalar) : Prop :=
  ∀ k, k < ts.length → hasScalar (ts.getD k never) (vs.getD k .absent) = true

/-- there is a value of `s` (position by position) outside every one of `negs` -/
def Witness (s : List SemType) (negs : List (List SemType)) : Prop :=
  ∃ vs : List Scalar, vs.length = s.length ∧ inAll s vs ∧ ∀ nt ∈ negs, ¬ inAll nt vs

theorem inAll_set (s : List SemType) (i : Nat) (d : SemType) (hi : i < s.length) (vs : List Scalar)
    (hd : ∀ v, hasScalar d v = true → hasScalar (s.getD i never) v = true) :
    inAll (s.set i d) vs ↔ inAll s vs ∧ hasScalar d (vs.getD i .absent) = true := by
  unfold inAll
  rw [List.length_set]
  constructor
  · intro h
    have hdi := h i hi
    rw [getD_set s i i never d hi, if_pos rfl] at hdi
    refine ⟨fun k hk => ?_, hdi⟩
    by_cases e : k = i
    · exact e ▸ hd _ hdi
    · have := h k hk
      rwa [getD_set s i k never d hi, if_neg e] at this
  · intro h k hk
    rw [getD_set s i k never d hi]
    by_cases e : k = i
    · rw [if_pos e]; exact e ▸ h.2
    · rw [if_neg e]; exact h.1 k hk

/-- the decomposition behind the search: a value of `s` outside `nt` leaves it at some position -/
theorem sem_step_l (s nt : List SemType) (rest : List (List SemType))
    (hs : ∀ t ∈ s, Good t) (hnt : ∀ t ∈ nt, WF t) (hl : nt.length = s.length) :
    (∃ i ∈ List.range s.length, ∃ d, Sem.diff (s.getD i never) (nt.getD i never) = some d ∧ Inh d ∧ Witness (s.set i d) rest) ↔
      Witness s (nt :: rest) := by
  have hdiff : ∀ k, ∃ d, Sem.diff (s.getD k never) (nt.getD k never) = some d ∧
      ∀ v, hasScalar d v = true ↔ hasScalar (s.getD k never) v = true ∧ hasScalar (nt.getD k never) v = false := by
    intro k
    obtain ⟨d, hd, _, hdv⟩ := diff_good _ _ (getD_of good_never s hs k) (getD_of good_never.2 nt hnt k)
    exact ⟨d, hd, fun v => by rw [hdv, Bool.and_eq_true, Bool.not_eq_true']⟩
  constructor
  · rintro ⟨i, hi, d, hd, _, vs, hlen, hin, hrest⟩
    have hi' : i < s.length := List.mem_range.1 hi
    obtain ⟨d0, hd0, hdv⟩ := hdiff i
    cases hd0.symm.trans hd
    obtain ⟨hs', hvi⟩ := (inAll_set s i d hi' vs fun v hv => ((hdv v).1 hv).1).1 hin
    refine ⟨vs, hlen.trans (List.length_set ..), hs', fun nt' hnt' => ?_⟩
    rcases List.mem_cons.1 hnt' with e | hr
    · subst e
      intro hall
      cases (hall i (hl ▸ hi')).symm.trans ((hdv _).1 hvi).2
    · exact hrest nt' hr
  · rintro ⟨vs, hlen, hin, hout⟩
    obtain ⟨k, hk⟩ := Classical.not_forall.1 (hout nt List.mem_cons_self)
    obtain ⟨hk, hkf⟩ := Classical.not_imp.1 hk
    have hk' : k < s.length := hl ▸ hk
    obtain ⟨d, hd, hdv⟩ := hdiff k
    have hvd : hasScalar d (vs.getD k .absent) = true := (hdv _).2 ⟨hin k hk', Bool.eq_false_iff.2 hkf⟩
    exact ⟨k, List.mem_range.2 hk', d, hd, ⟨_, hvd⟩, vs, hlen.trans (List.length_set ..).symm,
      (inAll_set s k d hk' vs fun v hv => ((hdv v).1 hv).1).2 ⟨hin, hvd⟩, fun nt' hnt' => hout nt' (List.mem_cons_of_mem _ hnt')⟩

/-- **`fixed_length_list_inhabited` is exact**: lists of inhabited scalar types `s` against any number of lists of the same
length; for every fuel ≥ 1 + their number it answers, leaves the context alone, and says "inhabited" exactly when some value
of `s` (position by position) lies outside every one of the negative lists -/
theorem fixed_many : ∀ (negs : List (List SemType)) (n : Nat) (s : List SemType) (c : Ctx),
    (∀ t ∈ s, Good t ∧ Inh t) → (∀ nt ∈ negs, (∀ t ∈ nt, WF t) ∧ nt.length = s.length) →
    ∃ r, fixedLenInhabited (n + 1 + negs.length) s negs c = some (r, c) ∧ (r = true ↔ Witness s negs)
  | [], n, s, c, hs, _ => by
    obtain ⟨vs, hl, hvs⟩ := exists_memTuple s fun t ht => (hs t ht).2
    exact ⟨true, fixed_nil n s c, iff_of_true rfl ⟨vs, hl, hvs, nofun⟩⟩
  | nt :: rest, n, s, c, hs, hN => by
    have hntN := hN nt List.mem_cons_self
    obtain ⟨r, hr, hiff⟩ := fixed_loop (n + 1 + rest.length) s nt rest c (fun i d => Witness (s.set i d) rest)
      (fun t ht => (hs t ht).1) hntN.1
      (fun d hd => Nat.add_right_comm n 1 rest.length ▸ isEmpty_good (n + rest.length) d c hd) (List.range s.length)
      (fun i _ d hdg hdi => fixed_many rest n (s.set i d) c (fun t ht => (List.mem_or_eq_of_mem_set ht).elim (hs t) fun e => e ▸ ⟨hdg, hdi⟩)
        fun nt' h => ⟨(hN nt' (List.mem_cons_of_mem _ h)).1,
          (hN nt' (List.mem_cons_of_mem _ h)).2.trans (List.length_set ..).symm⟩) false
    exact ⟨r, hr, hiff.trans ((or_iff_right Bool.false_ne_true).trans
      (sem_step_l s nt rest (fun t ht => (hs t ht).1) hntN.1 hntN.2))⟩

/-- `[boolean, boolean]` against `[true, true] | [false, boolean]`: the witness `[true, false]` leaves the first member at
the second position only (the input of the seeded change C05-r8); against `[true, boolean] | [false, boolean]` nothing is left -/
def bT : SemType := { never with bool := .some true }
def bF : SemType := { never with bool := .some false }
def bB : SemType := { never with bool := .all }
example : ((fixedLenInhabited 3 [bB, bB] [[bT, bT], [bF, bB]] {}).map (·.1)) = some true := by decide +kernel
example : ((fixedLenInhabited 3 [bB, bB] [[bT, bB], [bF, bB]] {}).map (·.1)) = some false := by decide +kernel
end BeffVerif.C05ListUnion
