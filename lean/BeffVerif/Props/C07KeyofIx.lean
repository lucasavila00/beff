import BeffVerif.Props.C07Keyof
/-!
# C07 — `keyof` of an object type WITH an index signature is `string`

The companion of `keyof_flat_object`, the other instance of `keyof_object`: for every object type with a (string) index
signature, in every context that defines its atom, `keyof` on the type vector answers `string` — the declared keys are absorbed
by the index key type (`keyof_indexed_object`), as in TypeScript (`keyof { a: 1; [k: string]: number }` is `string | number`,
whose string part this is; the port keys index signatures by `string` only).
-/
namespace BeffVerif.C07Keyof
open BeffVerif Sem C05 Bdd

theorem keyof_indexed_object (i : Nat) (A : MappingAtomic) (c : Ctx) (iv : SemType)
    (hA : c.mappings[i]? = some (some A)) (hx : A.index = some iv) :
    keyofSem (mappingFromIdx i) c = some (stringType, c) := by
  rw [keyof_object i A c hA, hx]
  rfl

/-- the members of the answer: every string, nothing of any other kind -/
theorem keyof_indexed_object_members (v : Scalar) : hasScalar stringType v = true ↔ ∃ s, v = .str s :=
  (hasScalar_strOnly .all v).trans ⟨fun ⟨s, e, _⟩ => ⟨s, e⟩, fun ⟨s, e⟩ => ⟨s, e, rfl⟩⟩

example : (keyofSem (mappingFromIdx 0)
    { mappings := [some ⟨[("a", { never with str := .all })], some { never with num := .all }⟩] }).map (·.1)
    = some { never with str := .all } := by decide +kernel

end BeffVerif.C07Keyof
