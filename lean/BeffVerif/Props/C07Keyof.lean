import BeffVerif.Props.C05
import BeffVerif.Model.ToSchema
/-!
# C07 — `keyof` of an object type is its set of keys (one object atom)

The general form of the witness `C07.keyof_object_keys`: for EVERY object type, in every context that defines its atom, the
port of `keyof` on type vectors (bdd.rs) answers with the literal type of the declared keys — a value belongs to the answer
exactly when it is the string of a declared key (`keyof_flat_object`, `keyof_flat_object_members`) — and with `string` when
the type has an index signature (`keyof_object`; `C07KeyofIx`). The walk: on a type vector that has only an object part,
`keyofSem` is the meet over the clauses of the union over their positive atoms (`keyofSem_mapping`); one atom is one clause
with one positive atom.
-/
namespace BeffVerif.C07Keyof
open BeffVerif Sem C05 Bdd

theorem sm_pure_bind {α β : Type} (a : α) (f : α → SM β) : (pure a >>= f) = f a := rfl

/-- the keys of an object type as a type: the union of the string literals -/
def keysType (A : MappingAtomic) : SemType := { never with str := mkLit true (A.vs.map (·.1)) }

def stringType : SemType := { never with str := .all }

theorem union_keys_string (A : MappingAtomic) : Sem.union (keysType A) stringType = some stringType := by
  have h : ∀ x : Sem.Sub LitSet, subUnion (fun a b => some (litUnion a b)) x .all = some .all := by intro x; cases x <;> rfl
  simp only [Sem.union, keysType, stringType, never, h, subUnion_none]
  rfl

/-- what one positive object atom adds to the keys of its clause: its declared keys, and every string under an index
signature (the index key type is `string`) -/
def atomKeys (keys : SemType) (a : Atom) : SM SemType := do
  let m ← getMapping a.idx
  let ks ← match m.index with
    | some _ => SM.lift (Sem.union (keysType m) stringType)
    | none => pure (keysType m)
  SM.lift (Sem.union keys ks)

/-- no scalar tag contributes -/
theorem keyofSem_mapping (b : Bdd) : keyofSem { never with mapping := .some b } = (do
    let perConj ← (Dnf.ofBdd b).mapM fun conj => conj.pos.foldlM atomKeys never
    let folded ← perConj.foldlM (fun (acc : Option SemType) k => match acc with
      | some p => do pure (some (← SM.lift (inter p k)))
      | none => pure (some k)) none
    pure (folded.getD never)) := by rfl

theorem dnf_atom (a : Atom) : Dnf.ofBdd (fromAtom a) = [⟨[a], []⟩] := rfl

/-- **`keyof` of a single object type**, with or without index signature -/
theorem keyof_object (i : Nat) (A : MappingAtomic) (c : Ctx) (hA : c.mappings[i]? = some (some A)) :
    keyofSem (mappingFromIdx i) c = some (if A.index.isSome then stringType else keysType A, c) := by
  have hatom : atomKeys never ⟨mappingKind, i⟩ c = some (if A.index.isSome then stringType else keysType A, c) := by
    unfold atomKeys
    rw [sm_bind_of (getMapping_of hA)]
    cases A.index with
    | none => exact congrArg (SM.lift · c) (union_never _)
    | some iv =>
      show (SM.lift (Sem.union (keysType A) stringType) >>= fun ks => SM.lift (Sem.union never ks)) c = _
      rw [union_keys_string]
      exact congrArg (SM.lift · c) (union_never _)
  show keyofSem { never with mapping := .some (fromAtom ⟨mappingKind, i⟩) } c = _
  rw [keyofSem_mapping, dnf_atom]
  -- one clause, one positive atom: the fold over the clauses meets nothing
  refine Eq.trans (sm_bind_of (mapM_single ?_)) rfl
  rw [List.foldlM_cons, sm_bind_of hatom]
  rfl

/-- **`keyof` of a single object type**: for every context that defines the atom as an object type without index
signature, `keyof` answers with exactly the literal type of the declared keys and leaves the context alone -/
theorem keyof_flat_object (i : Nat) (A : MappingAtomic) (c : Ctx)
    (hA : c.mappings[i]? = some (some A)) (hx : A.index = none) :
    keyofSem (mappingFromIdx i) c = some (keysType A, c) := by
  rw [keyof_object i A c hA, hx]
  rfl

theorem hasScalar_strOnly (x : Sem.Sub LitSet) (v : Scalar) :
    hasScalar { never with str := x } v = true ↔ ∃ s, v = .str s ∧ subLitHas x s = true := by
  constructor
  · intro h
    cases v with
    | str s => exact ⟨s, rfl, h⟩
    | _ => exact Bool.noConfusion h
  · rintro ⟨s, rfl, h⟩
    exact h

/-- the members of `keyof A`: exactly the strings that are declared keys, nothing of any other kind -/
theorem keyof_flat_object_members (A : MappingAtomic) (v : Scalar) :
    hasScalar (keysType A) v = true ↔ ∃ s, v = .str s ∧ s ∈ A.vs.map (·.1) := by
  have h : ∀ s, subLitHas (mkLit true (A.vs.map (·.1))) s = true ↔ s ∈ A.vs.map (·.1) := fun s => by
    simp only [mkLit_has, LitSet.has, if_true, List.contains_eq_mem, decide_eq_true_eq]
  simp only [keysType, hasScalar_strOnly, h]

/-- `keyof { a: string; b?: number }` in a context that also holds other atoms -/
example : (keyofSem (mappingFromIdx 1)
    { mappings := [some ⟨[], none⟩, some ⟨[("a", { never with str := .all }), ("b", { never with num := .all, opt := true })], none⟩] }).map (·.1)
    = some { never with str := .some ⟨true, ["a", "b"]⟩ } := by decide +kernel

end BeffVerif.C07Keyof
