import BeffVerif.Props.C07Idx
/-!
# C07 — `T[K]` at a key the object type does NOT declare is the value type of its index signature

The other case of `idx_declared_key` (the case of the repaired D71 / D93): for every object type with a string index signature,
every key `k` that is none of its declared properties and every context that defines the atom, indexing the type vector by the
literal `k` answers the value type of the index signature — and `never` when the type has no index signature
(`mappingMemberType_undeclared`).
-/
namespace BeffVerif.C07Idx
open BeffVerif Sem C05 Bdd

theorem not_all_declared (vs : List (String × SemType)) (k : String) (hk : k ∉ vs.map (·.1)) :
    ([k].all fun l => vs.any fun p => p.1 == l) = false := by
  rw [List.all_cons, List.all_nil, Bool.and_true]
  cases h : vs.any (fun p => p.1 == k) with
  | false => rfl
  | true =>
    obtain ⟨p, hp, e⟩ := List.any_eq_true.1 h
    exact absurd (List.mem_map.2 ⟨p, hp, beq_iff_eq.1 e⟩) hk

theorem mappingMemberType_undeclared (A : MappingAtomic) (k : String) (hk : k ∉ A.vs.map (·.1)) :
    mappingMemberType A (.lits true [k]) = some (A.index.getD never) := by
  unfold mappingMemberType
  simp only [filter_absent A.vs k hk, not_all_declared A.vs k hk]
  cases A.index with
  | none => rfl
  | some iv =>
    show (Sem.union never iv >>= fun s => pure s) = some iv
    rw [union_never]
    rfl

theorem idx_undeclared_key (i : Nat) (A : MappingAtomic) (c : Ctx) (k : String) (iv : SemType)
    (hA : c.mappings[i]? = some (some A)) (hx : A.index = some iv) (hk : k ∉ A.vs.map (·.1)) :
    indexedAccess (mappingFromIdx i) { never with str := .some ⟨true, [k]⟩ } c = some (iv, c) := by
  rw [idx_atom i A c true [k] hA, mappingMemberType_undeclared A k hk, hx]
  rfl

/-- `({ a: string; [k: string]: number })["zzz"]` is `number` (it was `never` before D93) -/
example : (indexedAccess (mappingFromIdx 0) { never with str := .some ⟨true, ["zzz"]⟩ }
    { mappings := [some ⟨[("a", { never with str := .all })], some { never with num := .all }⟩] }).map (·.1)
    = some { never with num := .all } := by decide +kernel

end BeffVerif.C07Idx
