import BeffVerif.Lemmas.Bdd
import BeffVerif.Lemmas.Dnf
/-!
# C06 — union / intersection / difference / complement are exact set operations

Property theorems only (helper lemmas are in `Lemmas/`). The atoms of a diagram are read as
propositional variables: whatever membership reading `ρ` one fixes for the atom tables, the Boolean layer
must commute with it. All statements are for every fuel, every pair of diagrams (ordered or not) and every
assignment; they are partial-correctness statements (`= some r`), complemented by the totality theorems of
`Props/C06Total.lean`.
-/
namespace BeffVerif.C06
open BeffVerif Bdd

/-- BddOps::union denotes ∪ (bdd.rs:160-205). -/
theorem bdd_union_exact (n : Nat) (b1 b2 r : Bdd) (h : union n b1 b2 = some r) (ρ : Atom → Bool) :
    eval ρ r = (eval ρ b1 || eval ρ b2) := union_sound ρ h

/-- BddOps::intersect denotes ∩ (bdd.rs:108-158). -/
theorem bdd_intersect_exact (n : Nat) (b1 b2 r : Bdd) (h : intersect n b1 b2 = some r) (ρ : Atom → Bool) :
    eval ρ r = (eval ρ b1 && eval ρ b2) := intersect_sound ρ h

/-- BddOps::diff denotes \ (bdd.rs:207-252). -/
theorem bdd_diff_exact (n : Nat) (b1 b2 r : Bdd) (h : diff n b1 b2 = some r) (ρ : Atom → Bool) :
    eval ρ r = (eval ρ b1 && !eval ρ b2) := diff_sound ρ h

/-- BddOps::complement denotes ¬ (bdd.rs:254-294). -/
theorem bdd_complement_exact (n : Nat) (b r : Bdd) (h : complement n b = some r) (ρ : Atom → Bool) :
    eval ρ r = !eval ρ b := complement_sound ρ h

/-- Bdd::from_node is the three-way node up to simplification (bdd.rs:84-97). -/
theorem bdd_fromNode_exact (n : Nat) (a : Atom) (l m r res : Bdd) (h : fromNode n a l m r = some res)
    (ρ : Atom → Bool) :
    eval ρ res = ((ρ a && eval ρ l) || eval ρ m || (!ρ a && eval ρ r)) := fromNode_sound n ρ h

/-- bdd_to_dnf never changes membership (dnf.rs:56-100). Unconditional: structural recursion. -/
theorem dnf_of_bdd_exact (b : Bdd) (ρ : Atom → Bool) : Dnf.eval ρ (Dnf.ofBdd b) = eval ρ b := by
  rw [Dnf.ofBdd, Dnf.eval_ofBddAcc]; simp [Dnf.eval]

/-- dnf_to_bdd never changes membership (dnf.rs:102-119). -/
theorem dnf_to_bdd_exact (n : Nat) (d : Dnf) (r : Bdd) (h : Dnf.toBdd n d = some r) (ρ : Atom → Bool) :
    eval ρ r = Dnf.eval ρ d := by
  have := Dnf.toBddAcc_sound n ρ d .ff r h
  simpa [eval] using this

/-- the round trip `dnf_to_bdd ∘ bdd_to_dnf` is the identity on membership. -/
theorem dnf_roundtrip_exact (n : Nat) (b r : Bdd) (h : Dnf.toBdd n (Dnf.ofBdd b) = some r)
    (ρ : Atom → Bool) : eval ρ r = eval ρ b := by
  rw [dnf_to_bdd_exact n _ r h ρ, dnf_of_bdd_exact]

/-! Non-vacuity: the operations do return `some` on concrete, non-trivial operands (and on every
script the correspondence run executes, the driver reports `model-error` otherwise). -/
private def a0 : Atom := ⟨1, 0⟩
private def a1 : Atom := ⟨1, 1⟩
private def a2 : Atom := ⟨0, 7⟩
example : (union 10 (fromAtom a0) (fromAtom a1)).isSome = true := by decide
example : (do let u ← union 10 (fromAtom a0) (fromAtom a1); let c ← complement 10 u
              let i ← intersect 10 c (fromAtom a2); diff 10 i (fromAtom a0)).isSome = true := by decide
example : (Dnf.toBdd 10 (Dnf.ofBdd (node a0 (fromAtom a1) (fromAtom a2) tt))).isSome = true := by decide

end BeffVerif.C06
