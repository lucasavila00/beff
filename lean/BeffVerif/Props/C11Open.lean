import BeffVerif.Props.C12Nonempty
/-!
# C11 — keys admitted by an index signature: where every object position is open, strict mode changes nothing

The `disallowExtraProperties` flag is read at exactly one place of the runtime: an object type WITHOUT index signature. `Open t`:
no such closed object type occurs in `t` (nor, through references, in the environment). `strict_eq_default_of_open`: for every
such type, every value and every fuel the validator gives the same answer in strict and in default mode — an undeclared key is
judged by the index signature, never by the flag (the "keys admitted by an index signature" clause of the property, for ALL
constructors: unions, intersections, discriminated unions, tuples, Maps, Sets, references with recursion).
-/
namespace BeffVerif.C11O
open BeffVerif RT JsVal

def closedObj : RT → Bool
  | .object _ [] => true
  | _ => false

/-- no object type without index signature anywhere in the tree -/
def Open (t : RT) : Prop := anyNode closedObj t = false

/-- **strict = default on types that are open at every object position** -/
theorem strict_eq_default_of_open (env : Env) (henv : ∀ name t, env.lookup name = some t → Open t) :
    ∀ (n : Nat) (t : RT) (v : JsVal), Open t → validate env true n t v = validate env false n t v
  | 0, _, _, _ => rfl
  | n+1, t, v, ho => by
    rw [validate_succ, validate_succ]
    exact validateStep_rel Res.respects_eq env t v
      (fun c hc x => strict_eq_default_of_open env henv n c x (hc.anyNode_false henv ho)) (fun _ _ _ => rfl)
      (fun props e => by subst e; simp [Open, anyNode, closedObj] at ho)

private def exT : RT := .object [("a", .typeof "string")] [(.typeof "string", .anyOf [.typeof "number", .object [] [(.typeof "string", .any)]])]

/-- non-vacuity: an open type, a value with keys the type does not declare by name, accepted with the flag on; and a closed
type is not open -/
example : anyNode closedObj exT = false ∧
    (match validate [] true 6 exT (.obj [("a", .str "x"), ("zz", .num "1"), ("yy", .obj [("deep", .bool true)])]) with | .ok b => b | _ => false) = true ∧
    anyNode closedObj (.array (.object [("a", .typeof "string")] [])) = true := by decide +kernel

end BeffVerif.C11O
