import BeffVerif.Props.C01
import BeffVerif.Lemmas.Pairwise2
/-!
# C01 — the inductive step on the structural fragment

`Frag`: types built from the keyword types, string / number / boolean literals, arrays, tuples (with rest element),
object types with required and optional properties (distinct names, no index signature), parentheses and `readonly`,
nested to any depth. For every such type the whole chain — `lower` (frontend), `print` (code generator),
`validate` (runtime) — is related to the declarative reference `Spec.mem`, for EVERY value:

* `lower` succeeds without diagnostics and without touching the definition table;
* the compiled validator and the reference never give different answers (`fragment_exact`).

Unions, intersections, named and generic types, index signatures and the built-in generics are outside this theorem;
for them the statement is decided by the three-way correspondence of the check.
-/
namespace BeffVerif.C01F
open BeffVerif RT JsVal IR

/-- a runtime answer and a reference answer agree when both are answers -/
def Agree2 (r : Res Bool) (o : Option Bool) : Prop := ∀ b c, r = .ok b → o = some c → b = c

theorem agree2_ok {a b : Bool} (h : a = b) : Agree2 (.ok a) (some b) := by
  intro x y h1 h2
  cases h1; cases h2; exact h

theorem agree2_none (r : Res Bool) : Agree2 r none := by intro b c _ h; cases h
theorem agree2_nofuel (o : Option Bool) : Agree2 .nofuel o := by intro b c h; cases h
theorem agree2_throw (s : String) (o : Option Bool) : Agree2 (.throw s) o := by intro b c h; cases h

/-- the reference's conjunction over a list (`none` = some component undecided) -/
def andFold {α : Type} (f : α → Option Bool) (init : Option Bool) (xs : List α) : Option Bool :=
  xs.foldl (fun acc x => match acc, f x with
    | some a, some b => some (a && b)
    | _, _ => none) init

theorem andFold_none {α : Type} (f : α → Option Bool) : ∀ xs : List α, andFold f none xs = none := by
  intro xs
  induction xs with
  | nil => rfl
  | cons x xs ih => simp only [andFold, List.foldl_cons]; exact ih

theorem andFold_cons {α : Type} (f : α → Option Bool) (a : Bool) (x : α) (xs : List α) :
    andFold f (some a) (x :: xs) = match f x with
      | some b => andFold f (some (a && b)) xs
      | none => none := by
  simp only [andFold, List.foldl_cons]
  cases f x with
  | none => exact andFold_none f xs
  | some b => rfl

theorem andFold_some {α : Type} (f : α → Option Bool) : ∀ (xs : List α) (a c : Bool), andFold f (some a) xs = some c →
    (∀ x ∈ xs, ∃ b, f x = some b) ∧ (c = true ↔ (a = true ∧ ∀ x ∈ xs, f x = some true)) := by
  intro xs
  induction xs with
  | nil =>
    intro a c h
    cases h
    exact ⟨fun _ h => (nomatch h), fun h => ⟨h, fun _ h => (nomatch h)⟩, fun h => h.1⟩
  | cons x xs ih =>
    intro a c h
    rw [andFold_cons] at h
    cases hx : f x with
    | none => rw [hx] at h; cases h
    | some b =>
      rw [hx] at h
      obtain ⟨hd, hc⟩ := ih (a && b) c h
      simp only [List.forall_mem_cons, hx, Option.some.injEq]
      exact ⟨⟨⟨b, rfl⟩, hd⟩, by rw [hc, Bool.and_eq_true, and_assoc]⟩

theorem allShort_andFold {α β : Type} {g : α → Res Bool} {f : β → Option Bool} {l1 : List α} {l2 : List β}
    (h12 : ∀ x ∈ l1, ∃ y ∈ l2, Agree2 (g x) (f y)) (h21 : ∀ y ∈ l2, ∃ x ∈ l1, Agree2 (g x) (f y)) :
    Agree2 (allShort g l1) (andFold f (some true) l2) := by
  intro b c h1 h2
  obtain ⟨hdef, hc⟩ := andFold_some f l2 true c h2
  cases b with
  | true =>
    -- every runtime component is true, so every reference component is
    refine (hc.2 ⟨rfl, fun y hy => ?_⟩).symm
    obtain ⟨by', hy'⟩ := hdef y hy
    obtain ⟨x, hx, hag⟩ := h21 y hy
    rw [hy', hag true by' ((allShort_true_iff g l1).1 h1 x hx) hy']
  | false =>
    -- a rejecting runtime component has a partner on the reference side, so the conjunction is not `true`
    obtain ⟨x, hx, hgx⟩ := allShort_false g l1 h1
    obtain ⟨y, hy, hag⟩ := h12 x hx
    cases c with
    | false => rfl
    | true => exact hag false true hgx ((hc.1 rfl).2 y hy)

theorem allShort_andFold_perm {α β : Type} {g : α → Res Bool} {f : β → Option Bool} {l1 l1' : List α} {l2 : List β}
    (hp : l1.Perm l1') (h : Pairwise2 (fun a b => Agree2 (g a) (f b)) l1' l2) :
    Agree2 (allShort g l1) (andFold f (some true) l2) :=
  allShort_andFold (fun a ha => pairwise2_left h a (hp.mem_iff.1 ha))
    (fun b hb => let ⟨a, ha, hab⟩ := pairwise2_right h b hb; ⟨a, hp.mem_iff.2 ha, hab⟩)

theorem allShort_andFold_same {α : Type} {g : α → Res Bool} {f : α → Option Bool} (l : List α)
    (h : ∀ x, Agree2 (g x) (f x)) : Agree2 (allShort g l) (andFold f (some true) l) :=
  allShort_andFold (fun x hx => ⟨x, hx, h x⟩) (fun x hx => ⟨x, hx, h x⟩)

theorem agree2_andThen {A B : Res Bool} {H T : Option Bool} (hA : Agree2 A H) (hB : Agree2 B T) :
    Agree2 (A.andThen B) (H.bind fun h => T.map (h && ·)) := by
  intro b c h1 h2
  cases H with
  | none => cases h2
  | some h =>
    cases T with
    | none => cases h2
    | some t =>
      cases h2
      cases A with
      | ok a =>
        have e : a = h := hA a h rfl rfl
        subst e
        cases a with
        | true => exact hB b t h1 rfl
        | false => cases h1; rfl
      | throw e => cases h1
      | nofuel => cases h1

theorem agree2_then_false (A : Res Bool) : Agree2 (A.andThen (.ok false)) (some false) := by
  intro b c h1 h2
  cases h2
  cases A with
  | ok a => cases a <;> cases h1 <;> rfl
  | throw e => cases h1
  | nofuel => cases h1

theorem andThen_ok_true (A : Res Bool) : A.andThen (.ok true) = A := by
  cases A with
  | ok a => cases a <;> rfl
  | _ => rfl

theorem agree2_ite {c : Prop} [Decidable c] {r r' : Res Bool} {o o' : Option Bool} (h : Agree2 r o) (h' : Agree2 r' o') :
    Agree2 (if c then r else r') (if c then o else o') := by
  split
  · exact h
  · exact h'

def fragKeywords : List String := ["string", "number", "boolean", "null", "undefined", "void", "any", "unknown", "never", "bigint"]

inductive Frag : Ty → Prop
  | kw (k : String) : k ∈ fragKeywords → Frag (.kw k)
  | litStr (s : String) : Frag (.lit (.str s))
  | litNum (c : String) : Frag (.lit (.num c))
  | litBool (b : Bool) : Frag (.lit (.bool b))
  | array (t : Ty) : Frag t → Frag (.array t)
  | tuple (pre : List Ty) (rest : Option Ty) : (∀ t ∈ pre, Frag t) → (∀ r, rest = some r → Frag r) → Frag (.tuple pre rest)
  | obj (ms : List (String × Bool × Ty)) : (ms.map (·.1)).Nodup → (∀ m ∈ ms, Frag m.2.2) → Frag (.obj ms none)
  | paren (t : Ty) : Frag t → Frag (.paren t)
  | readonly (t : Ty) : Frag t → Frag (.readonly t)

/-- the printer's fuel suffices for the term (the printer answers `never` when it runs out, silently) -/
def depthOK : Nat → IR → Bool
  | 0, _ => false
  | n+1, t => match t with
    | .array x => depthOK n x
    | .tuple pre rest => pre.all (depthOK n) && (match rest with | some r => depthOK n r | none => true)
    | .object vs none => vs.all fun p => depthOK n p.2.2
    | .object _ (some _) => false
    | .anyOf _ | .allOf _ | .map _ _ | .set _ | .stNot _ => false
    | _ => true

/-- the compiled form `ir` of the type `t`: printed with enough fuel and run on any value, it never disagrees with the
reference -/
def Rel (ir : IR) (t : Ty) : Prop :=
  ∀ (named : Named) (env : Env) (pf vf sf : Nat) (v : JsVal), depthOK pf ir = true →
    Agree2 (validate env false vf (print named pf ir) v) (Spec.mem [] sf t v)

theorem mem_zero (decls : List Decl) (t : Ty) (v : JsVal) : Spec.mem decls 0 t v = none := rfl

theorem rel_intro {ir : IR} {t : Ty}
    (h : ∀ (named : Named) (env : Env) (pf vf sf : Nat) (v : JsVal), depthOK (pf+1) ir = true →
      Agree2 (validate env false (vf+1) (print named (pf+1) ir) v) (Spec.mem [] (sf+1) t v)) : Rel ir t := by
  intro named env pf vf sf v hd
  cases pf with
  | zero => cases hd
  | succ pf =>
    cases vf with
    | zero => exact agree2_nofuel _
    | succ vf =>
      cases sf with
      | zero => exact agree2_none _
      | succ sf => exact h named env pf vf sf v hd

/-! The reference's local folds are `andFold`. -/

theorem mem_array (sf : Nat) (t : Ty) (v : JsVal) :
    Spec.mem [] (sf+1) (.array t) v = (match v with
      | .arr items => andFold (Spec.mem [] sf t) (some true) items
      | _ => some false) := rfl

theorem mem_tuple (sf : Nat) (pre : List Ty) (rest : Option Ty) (v : JsVal) :
    Spec.mem [] (sf+1) (.tuple pre rest) v = (match v with
      | .arr items =>
        if rest.isNone && items.length > pre.length then some false
        else
          match andFold (fun (p : Ty × Nat) => Spec.mem [] sf p.1 (items.getD p.2 .undef)) (some true)
              (pre.zip (List.range pre.length)), rest with
          | some h, some r => (andFold (Spec.mem [] sf r) (some true) (items.drop pre.length)).map (h && ·)
          | h, none => h
          | none, _ => none
      | _ => some false) := rfl

section equations
variable (named : Named) (n : Nat)

theorem print_array (x : IR) : print named (n+1) (.array x) = .array (print named n x) := rfl
theorem print_tuple (ps : List IR) (rx : Option IR) :
    print named (n+1) (.tuple ps rx) = .tuple (ps.map (print named n)) (rx.map (print named n)) := rfl
theorem print_object (vs : List (String × Bool × IR)) : print named (n+1) (.object vs none) =
    .object (vs.map fun p => (p.1, if p.2.1 then print named n p.2.2 else .optional (print named n p.2.2))) [] := rfl

theorem depthOK_tuple (ps : List IR) (rx : Option IR) : depthOK (n+1) (.tuple ps rx) =
    (ps.all (depthOK n) && (match rx with | some r => depthOK n r | none => true)) := rfl
theorem depthOK_object (vs : List (String × Bool × IR)) :
    depthOK (n+1) (.object vs none) = vs.all fun p => depthOK n p.2.2 := rfl
end equations

theorem rel_leaf {t : Ty} {ir : IR} {p : JsVal → Bool} (h : C01.Leaf t ir p) : Rel ir t := by
  apply rel_intro
  intro named env pf vf sf v _
  rw [h.run, h.mem]
  exact agree2_ok rfl

theorem depthOK_kw : ∀ e ∈ C01.kwTable, depthOK 1 e.2.1 = true := by decide

theorem depthOK_litIR (c : JsVal) : depthOK 1 (C01.litIR c) = true := by cases c <;> rfl

theorem depthOK_mono : ∀ (k : Nat) (x : IR), depthOK k x = true → depthOK (k+1) x = true := by
  intro k
  induction k with
  | zero => intro x h; cases h
  | succ k ih =>
    intro x h
    cases x with
    | array y => exact ih y h
    | tuple pre rest =>
      rw [depthOK_tuple, Bool.and_eq_true, List.all_eq_true] at h ⊢
      refine ⟨fun y hy => ih y (h.1 y hy), ?_⟩
      cases rest with
      | none => rfl
      | some r => exact ih r h.2
    | object vs ix =>
      cases ix with
      | none =>
        rw [depthOK_object, List.all_eq_true] at h ⊢
        exact fun p hp => ih _ (h p hp)
      | some i => cases h
    | anyOf _ | allOf _ | map _ _ | set _ | stNot _ => cases h
    | _ => rfl

theorem depthOK_le {k m : Nat} {x : IR} (h : depthOK k x = true) (hle : k ≤ m) : depthOK m x = true := by
  induction hle with
  | refl => exact h
  | step _ ih => exact depthOK_mono _ _ ih

theorem rel_array {x : IR} {t : Ty} (h : Rel x t) : Rel (.array x) (.array t) := by
  apply rel_intro
  intro named env pf vf sf v hd
  rw [print_array, validate_array, mem_array]
  cases v with
  | arr items => exact allShort_andFold_same items fun y => h named env pf vf sf y hd
  | _ => exact agree2_ok rfl

/-- `t'` wraps `t` in a former the frontend drops and the reference sees through -/
theorem rel_wrap {x : IR} {t t' : Ty} (ht : ∀ sf v, Spec.mem [] (sf+1) t' v = Spec.mem [] sf t v) (h : Rel x t) :
    Rel x t' := by
  intro named env pf vf sf v hd
  cases sf with
  | zero => exact agree2_none _
  | succ sf => rw [ht]; exact h named env pf vf sf v hd

theorem pairwise2_map_right {α β γ : Type} {P : α → γ → Prop} (f : β → γ) : ∀ {xs : List α} {ys : List β},
    Pairwise2 P xs (ys.map f) → Pairwise2 (fun a b => P a (f b)) xs ys := by
  intro xs
  induction xs with
  | nil => intro ys h; cases ys with
    | nil => trivial
    | cons y ys => exact h.elim
  | cons x xs ih => intro ys h; cases ys with
    | nil => exact h.elim
    | cons y ys => exact ⟨h.1, ih h.2⟩

/-- `Rel` for the optional rest element of a tuple -/
def RestRel : Option IR → Option Ty → Prop
  | none, none => True
  | some x, some t => Rel x t
  | _, _ => False

theorem rel_at {xs : List IR} {ts : List Ty} (h : Pairwise2 Rel xs ts) (named : Named) (env : Env) (pf sf : Nat)
    (hd : ∀ x ∈ xs, depthOK pf x = true) :
    Pairwise2 (fun x t => ∀ vf y, Agree2 (validate env false vf (print named pf x) y) (Spec.mem [] sf t y)) xs ts :=
  pairwise2_mono_mem (fun x hx _ hxt vf y => hxt named env pf vf sf y (hd x hx)) h

theorem rel_tuple {ps : List IR} {pre : List Ty} {rx : Option IR} {rest : Option Ty}
    (hp : Pairwise2 Rel ps pre) (hr : RestRel rx rest) : Rel (.tuple ps rx) (.tuple pre rest) := by
  apply rel_intro
  intro named env pf vf sf v hd
  rw [depthOK_tuple, Bool.and_eq_true, List.all_eq_true] at hd
  rw [print_tuple, validate_tuple, mem_tuple]
  cases v with
  | arr items =>
    have hl : (ps.map (print named pf)).length = pre.length := by rw [List.length_map, pairwise2_length hp]
    rw [hl]
    have hpre : Pairwise2 (fun rt t => ∀ vf y, Agree2 (validate env false vf rt y) (Spec.mem [] sf t y))
        (ps.map (print named pf)) pre := pairwise2_map_left _ (rel_at hp named env pf sf hd.1)
    have hheads := allShort_andFold_perm (.refl _) (pairwise2_mono
      (Q := fun (a : RT × Nat) (b : Ty × Nat) =>
        Agree2 (validate env false vf a.1 (items.getD a.2 .undef)) (Spec.mem [] sf b.1 (items.getD b.2 .undef)))
      (fun a b hab => by rw [hab.2]; exact hab.1 vf _) (pairwise2_zip _ _ (List.range pre.length) hpre))
    cases rx with
    | none =>
      cases rest with
      | some t => exact hr.elim
      | none =>
        by_cases hlen : items.length > pre.length
        · simp only [Option.isNone_none, Bool.true_and, hlen, decide_true, if_true, Option.map_none, Bool.not_true]
          exact agree2_then_false _
        · simp only [Option.isNone_none, Bool.true_and, hlen, decide_false, Bool.false_eq_true, if_false, Option.map_none,
            Bool.not_false, andThen_ok_true]
          exact hheads
    | some x =>
      cases rest with
      | none => exact hr.elim
      | some t =>
        have hrest := allShort_andFold_same (items.drop pre.length) fun y => hr named env pf vf sf y hd.2
        have := agree2_andThen hheads hrest
        simp only [Option.isNone_some, Bool.false_and, Bool.false_eq_true, if_false, Option.map_some]
        -- the `match` of `mem_tuple` is stuck on the fold over the heads: name it, then split
        generalize andFold _ _ (pre.zip _) = H at this ⊢
        cases H with
        | none => exact agree2_none _
        | some h => exact this
  | _ => exact agree2_ok rfl

@[elab_as_elim]
theorem list_snoc_induct {α : Type} {motive : List α → Prop} (nil : motive [])
    (snoc : ∀ l a, motive l → motive (l ++ [a])) (l : List α) : motive l := by
  rw [← List.reverse_reverse l]
  induction l.reverse with
  | nil => exact nil
  | cons a l ih => rw [List.reverse_cons]; exact snoc _ a ih

theorem vsInsert_perm (acc : List (String × Bool × IR)) (k : String) (r : Bool) (t : IR) (hk : ∀ p ∈ acc, p.1 ≠ k) :
    (vsInsert acc k r t).Perm ((k, r, t) :: acc) := by
  unfold vsInsert
  have hf : acc.filter (fun p => p.1 != k) = acc := List.filter_eq_self.2 fun p hp => by simpa using hk p hp
  rw [hf, List.append_assoc]
  exact List.perm_middle.trans (.cons _ (.of_eq List.takeWhile_append_dropWhile))

theorem vsOfList_perm (l : List (String × Bool × IR)) (hn : (l.map (·.1)).Nodup) : (vsOfList l).Perm l := by
  induction l using list_snoc_induct with
  | nil => exact .refl _
  | snoc l p ih =>
    rw [List.map_append, List.nodup_append] at hn
    have ih := ih hn.1
    have hfresh : ∀ q ∈ vsOfList l, q.1 ≠ p.1 := fun q hq =>
      hn.2.2 q.1 (List.mem_map_of_mem (ih.mem_iff.1 hq)) p.1 List.mem_cons_self
    rw [vsOfList, List.foldl_append]
    exact (vsInsert_perm _ p.1 p.2.1 p.2.2 hfresh).trans ((ih.cons p).trans (List.perm_append_singleton p l).symm)

theorem putMember_fresh (acc : List (String × Bool × Ty)) (m : String × Bool × Ty) (h : ∀ p ∈ acc, p.1 ≠ m.1) :
    Spec.putMember acc m = acc ++ [m] := by
  have : acc.any (fun p => p.1 == m.1) = false := List.any_eq_false.2 fun p hp => by simpa using h p hp
  rw [Spec.putMember, this]
  rfl

/-- with distinct names "later declaration wins" never fires -/
theorem foldl_putMember (ms : List (String × Bool × Ty)) (hn : (ms.map (·.1)).Nodup) : ms.foldl Spec.putMember [] = ms := by
  induction ms using list_snoc_induct with
  | nil => rfl
  | snoc ms m ih =>
    rw [List.map_append, List.nodup_append] at hn
    rw [List.foldl_append, ih hn.1]
    exact putMember_fresh ms m fun q hq => hn.2.2 q.1 (List.mem_map_of_mem hq) m.1 List.mem_cons_self

def memProp (sf : Nat) (v : JsVal) (mb : String × Bool × Ty) : Option Bool :=
  if mb.2.1 && (v.getProp mb.1).isNullish then some true else Spec.mem [] sf mb.2.2 (v.getProp mb.1)

theorem mem_obj (sf : Nat) (ms : List (String × Bool × Ty)) (hn : (ms.map (·.1)).Nodup) (v : JsVal) :
    Spec.mem [] (sf+1) (.obj ms none) v =
      (if !(v.isObjectLike && !v.isArray) then some false else andFold (memProp sf v) (some true) ms) := by
  have : Spec.mem [] (sf+1) (.obj ms none) v =
      Spec.memShapeWith (Spec.mem [] sf) (some (ms.foldl Spec.putMember [], none)) v := rfl
  rw [this, foldl_putMember ms hn]
  rfl

/-- the entries `lowerMembers` hands to `vsOfList`: name, "required" flag, lowered property type -/
def objEntries (ms : List (String × Bool × Ty)) (xs : List IR) : List (String × Bool × IR) :=
  (ms.zip xs).map fun p => (p.1.1, !p.1.2.1, p.2)

/-- the compiled form of an object type: its members, sorted by name -/
def objIR (ms : List (String × Bool × Ty)) (xs : List IR) : IR := .object (vsOfList (objEntries ms xs)) none

theorem objEntries_perm {ms : List (String × Bool × Ty)} {xs : List IR} (hn : (ms.map (·.1)).Nodup)
    (hl : xs.length = ms.length) : (vsOfList (objEntries ms xs)).Perm (objEntries ms xs) := by
  apply vsOfList_perm
  have : (objEntries ms xs).map (·.1) = ((ms.zip xs).map Prod.fst).map (·.1) := by
    rw [objEntries, List.map_map, List.map_map]; rfl
  rw [this, List.map_fst_zip (by omega)]
  exact hn

theorem objEntries_snd (ms : List (String × Bool × Ty)) {xs : List IR} (hl : xs.length = ms.length) :
    (objEntries ms xs).map (·.2.2) = xs := by
  rw [objEntries, List.map_map]
  exact List.map_snd_zip (by omega)

theorem depthOK_objIR {ms : List (String × Bool × Ty)} {xs : List IR} (hn : (ms.map (·.1)).Nodup)
    (hl : xs.length = ms.length) (n : Nat) : depthOK (n+1) (objIR ms xs) = true ↔ ∀ x ∈ xs, depthOK n x = true := by
  rw [objIR, depthOK_object, List.all_eq_true]
  conv => rhs; rw [← objEntries_snd ms hl]
  rw [List.forall_mem_map]
  have hp := objEntries_perm hn hl
  exact ⟨fun h q hq => h q (hp.mem_iff.2 hq), fun h q hq => h q (hp.mem_iff.1 hq)⟩

/-- an optional property accepts nullish values on both sides -/
theorem agree2_prop {env : Env} {sf : Nat} {rt : RT} {t : Ty}
    (h : ∀ vf y, Agree2 (validate env false vf rt y) (Spec.mem [] sf t y)) (o : Bool) (vf : Nat) (x : JsVal) :
    Agree2 (validate env false vf (if (!o) = true then rt else .optional rt) x)
      (if o && x.isNullish then some true else Spec.mem [] sf t x) := by
  cases o with
  | false => exact h vf x
  | true =>
    cases vf with
    | zero => exact agree2_nofuel _
    | succ vf =>
      show Agree2 (validate env false (vf+1) (.optional rt) x) (if x.isNullish then some true else Spec.mem [] sf t x)
      rw [validate_optional]
      exact agree2_ite (agree2_ok rfl) (h vf x)

theorem rel_obj {ms : List (String × Bool × Ty)} {xs : List IR} (hn : (ms.map (·.1)).Nodup)
    (hp : Pairwise2 Rel xs (ms.map (·.2.2))) : Rel (objIR ms xs) (.obj ms none) := by
  have hl : xs.length = ms.length := by simpa using pairwise2_length hp
  apply rel_intro
  intro named env pf vf sf v hd
  rw [depthOK_objIR hn hl] at hd
  rw [mem_obj sf ms hn, objIR, print_object, validate_object, if_neg Bool.false_ne_true, andThen_ok_true]
  refine agree2_ite (agree2_ok rfl) ?_
  -- the sorted printed properties are a rearrangement of the declared ones, each printed
  refine allShort_andFold_perm ((objEntries_perm hn hl).map _) ?_
  rw [objEntries, List.map_map]
  refine pairwise2_map_left _ (pairwise2_mono ?_ (pairwise2_zip_self (pairwise2_map_right _ (rel_at hp named env pf sf hd))))
  rintro ⟨mb, x⟩ _ ⟨rfl, h⟩
  exact agree2_prop h mb.2.1 vf _

/-! The induction is over the frontend's fuel. `Stmt n`, `StmtL n`, `StmtM n` are what it proves of `lower`, `lowerList`,
`lowerMembers` at fuel `n` (`frag_chain`): out of fuel, or a result related to the type(s), the definition table untouched. -/

def Stmt (n : Nat) : Prop := ∀ (t : Ty) (stack : List (String × IR)) (defs : Lower.Defs), Frag t →
  Lower.lower [] n stack defs t = .nofuel ∨
    ∃ ir, Lower.lower [] n stack defs t = .ok ir defs ∧ depthOK n ir = true ∧ Rel ir t

def StmtL (n : Nat) : Prop := ∀ (ts : List Ty) (stack : List (String × IR)) (defs : Lower.Defs), (∀ t ∈ ts, Frag t) →
  Lower.lowerList [] n stack defs ts = .nofuel ∨
    ∃ irs, Lower.lowerList [] n stack defs ts = .ok irs defs ∧ (∀ x ∈ irs, depthOK n x = true) ∧ Pairwise2 Rel irs ts

def StmtM (n : Nat) : Prop := ∀ (ms : List (String × Bool × Ty)) (stack : List (String × IR)) (defs : Lower.Defs),
  (ms.map (·.1)).Nodup → (∀ m ∈ ms, Frag m.2.2) →
  Lower.lowerMembers [] n stack defs ms none = .nofuel ∨
    ∃ ir, Lower.lowerMembers [] n stack defs ms none = .ok ir defs ∧ depthOK n ir = true ∧ Rel ir (.obj ms none)

theorem stmt_leaf {t : Ty} {ir : IR} {p : JsVal → Bool} (h : C01.Leaf t ir p) (hd : depthOK 1 ir = true) (n : Nat)
    (stack : List (String × IR)) (defs : Lower.Defs) :
    ∃ ir, Lower.lower [] (n+1) stack defs t = .ok ir defs ∧ depthOK (n+1) ir = true ∧ Rel ir t :=
  ⟨ir, h.lower .., depthOK_le hd (Nat.le_add_left 1 n), rel_leaf h⟩

theorem stmt_succ {n : Nat} (ihS : Stmt n) (ihL : StmtL n) (ihM : StmtM n) : Stmt (n+1) := by
  intro t stack defs hf
  cases hf with
  | kw k hk =>
    obtain ⟨e, he, rfl⟩ := List.mem_map.1 (show k ∈ C01.kwTable.map (·.1) from hk)
    exact .inr (stmt_leaf (C01.leaf_kw e he) (depthOK_kw e he) ..)
  | litStr s => exact .inr (stmt_leaf (C01.leaf_lit (.str s) rfl) (depthOK_litIR _) ..)
  | litNum c => exact .inr (stmt_leaf (C01.leaf_lit (.num c) rfl) (depthOK_litIR _) ..)
  | litBool b => exact .inr (stmt_leaf (C01.leaf_lit (.bool b) rfl) (depthOK_litIR _) ..)
  | array t ht =>
    rw [C01.lower_array]
    rcases ihS t stack defs ht with h | ⟨ir, h1, h2, h3⟩
    · rw [h]; exact .inl rfl
    · rw [h1]; exact .inr ⟨.array ir, rfl, h2, rel_array h3⟩
  | paren t ht | readonly t ht =>
    -- the frontend passes the fuel on and drops the wrapper
    rcases ihS t stack defs ht with h | ⟨ir, h1, h2, h3⟩
    · exact .inl h
    · exact .inr ⟨ir, h1, depthOK_mono _ _ h2, rel_wrap (fun _ _ => rfl) h3⟩
  | tuple pre rest hp hr =>
    rw [C01.lower_tuple]
    rcases ihL pre stack defs hp with h | ⟨ps, h1, h2, h3⟩
    · rw [h]; exact .inl rfl
    · cases rest with
      | none =>
        rw [h1]
        refine .inr ⟨.tuple ps none, rfl, ?_, rel_tuple h3 trivial⟩
        rw [depthOK_tuple, Bool.and_true, List.all_eq_true]
        exact h2
      | some r =>
        rcases ihS r stack defs (hr r rfl) with h | ⟨x, hx1, hx2, hx3⟩
        · simp only [h1, h]; exact .inl trivial
        · simp only [h1, hx1]
          refine .inr ⟨.tuple ps (some x), rfl, ?_, rel_tuple h3 hx3⟩
          rw [depthOK_tuple, Bool.and_eq_true, List.all_eq_true]
          exact ⟨h2, hx2⟩
  | obj ms hn hm =>
    rcases ihM ms stack defs hn hm with h | ⟨ir, h1, h2, h3⟩
    · exact .inl h
    · exact .inr ⟨ir, h1, depthOK_mono _ _ h2, h3⟩

theorem stmtL_succ {n : Nat} (ihS : Stmt n) (ihL : StmtL n) : StmtL (n+1) := by
  intro ts stack defs hts
  cases ts with
  | nil => exact .inr ⟨[], rfl, fun _ h => (nomatch h), trivial⟩
  | cons t ts =>
    rw [C01.lowerList_cons]
    rcases ihS t stack defs (hts t List.mem_cons_self) with h | ⟨x, hx1, hx2, hx3⟩
    · rw [h]; exact .inl rfl
    · rcases ihL ts stack defs (fun y hy => hts y (List.mem_cons_of_mem _ hy)) with h | ⟨xs, h1, h2, h3⟩
      · simp only [hx1, h]; exact .inl trivial
      · simp only [hx1, h1]
        refine .inr ⟨x :: xs, rfl, ?_, hx3, h3⟩
        intro y hy
        rcases List.mem_cons.1 hy with rfl | hy
        · exact depthOK_mono _ _ hx2
        · exact depthOK_mono _ _ (h2 y hy)

theorem stmtM_succ {n : Nat} (ihL : StmtL n) : StmtM (n+1) := by
  intro ms stack defs hn hm
  rw [C01.lowerMembers_none]
  rcases ihL (ms.map (·.2.2)) stack defs (List.forall_mem_map.2 hm) with h | ⟨xs, h1, h2, h3⟩
  · rw [h]; exact .inl rfl
  · rw [h1]
    have hl : xs.length = ms.length := by simpa using pairwise2_length h3
    exact .inr ⟨objIR ms xs, rfl, (depthOK_objIR hn hl n).2 h2, rel_obj hn h3⟩

theorem frag_chain : ∀ n, Stmt n ∧ StmtL n ∧ StmtM n := by
  intro n
  induction n with
  | zero => exact ⟨fun _ _ _ _ => .inl rfl, fun _ _ _ _ => .inl rfl, fun _ _ _ _ _ => .inl rfl⟩
  | succ n ih => exact ⟨stmt_succ ih.1 ih.2.1 ih.2.2, stmtL_succ ih.1 ih.2.1, stmtM_succ ih.2.1⟩

/-- the compiler on a one-export program over the fragment: never a diagnostic, and the definition table stays empty -/
theorem fragment_compiles (t : Ty) (hf : Frag t) :
    compile ⟨[], [("X", t)]⟩ = .nofuel ∨
      ∃ ir, depthOK 200 ir = true ∧ Rel ir t ∧ compile ⟨[], [("X", t)]⟩ = .ok [] [("X", print [] 200 ir)] := by
  rcases (frag_chain 200).1 t [] [] hf with h | ⟨ir, h1, h2, h3⟩
  · exact .inl (C01.compile_single_nofuel h)
  · exact .inr ⟨ir, h2, h3, C01.compile_single h1⟩

/-- **On the structural fragment the compiled validator never disagrees with the reference**: for every type built
from keyword types, literals, arrays, tuples and object types (any nesting), every value, and every fuel of the
reference. -/
theorem fragment_exact (t : Ty) (hf : Frag t) (v : JsVal) (sf : Nat) (b c : Bool)
    (h1 : C01.compiledAccepts t v = some b) (h2 : Spec.mem [] sf t v = some c) : b = c := by
  rcases (frag_chain 200).1 t [] [] hf with h | ⟨ir, hl, hd, hrel⟩
  · rw [C01.compiledAccepts, C01.compile_single_nofuel h] at h1; cases h1
  · rw [C01.compiledAccepts_of hl] at h1
    cases hv : validate [] false 50 (print [] 200 ir) v with
    | ok bb =>
      rw [hv] at h1
      cases h1
      exact hrel [] [] 200 50 sf v hd b c hv h2
    | throw e => rw [hv] at h1; cases h1
    | nofuel => rw [hv] at h1; cases h1

private def exTy : Ty :=
  .obj [("id", false, .kw "number"),
        ("tags", true, .array (.lit (.str "a"))),
        ("pos", false, .tuple [.kw "number", .kw "number"] (some (.kw "string")))] none

private theorem exTy_frag : Frag exTy := by
  have num : Frag (.kw "number") := .kw _ (.tail _ (.head _))
  have str : Frag (.kw "string") := .kw _ (.head _)
  refine .obj _ (by decide) ?_
  simp only [List.forall_mem_cons, List.not_mem_nil, false_imp_iff, implies_true, and_true]
  refine ⟨num, .array _ (.litStr _), .tuple _ _ ?_ fun r hr => by cases hr; exact str⟩
  simp only [List.forall_mem_cons, List.not_mem_nil, false_imp_iff, implies_true, and_true]
  exact ⟨num, num⟩

/-- a nested type of the fragment: the validator answers (accepts one value, rejects another), the reference answers,
and they agree — as `fragment_exact` says they must -/
example :
    C01.compiledAccepts exTy (.obj [("id", .num "1"), ("pos", .arr [.num "1", .num "2", .str "x"])]) = some true ∧
    C01.compiledAccepts exTy (.obj [("id", .num "1"), ("pos", .arr [.num "1"])]) = some false ∧
    Spec.mem [] 20 exTy (.obj [("id", .num "1"), ("pos", .arr [.num "1"])]) = some false := by
  decide +kernel

end BeffVerif.C01F
