import BeffVerif.Props.C01
/-!
# C08 — meaning-preserving rewrites of the source do not change validators

The reference semantics ⟦·⟧ᵀˢ is invariant under the listed rewrites (proved here for: reordering union /
intersection members and object members, parentheses, `readonly`, introducing / inlining a non-generic alias,
the generic identity wrapper). Together with the C01 tie (implementation = compiler model = reference on the
generated programs) this is what makes the validators of a program and of its rewrite agree; the check also
compares the two REAL validators (and their hash256) directly.
-/
namespace BeffVerif.C08
open BeffVerif Spec JsVal

/-- three-valued "or"/"and": the steps of the folds of `Spec.mem` over unions / intersections / members (inline `match`es
there, and `C01F.andFold`'s step: the same terms up to unfolding) -/
def orO (acc : Option Bool) (x : Option Bool) : Option Bool :=
  match acc, x with | some a, some b => some (a || b) | _, _ => none
def andO (acc : Option Bool) (x : Option Bool) : Option Bool :=
  match acc, x with | some a, some b => some (a && b) | _, _ => none

theorem orO_comm (a x y : Option Bool) : orO (orO a x) y = orO (orO a y) x := by
  cases a <;> cases x <;> cases y <;> try rfl
  exact congrArg some (Bool.or_right_comm ..)
theorem andO_comm (a x y : Option Bool) : andO (andO a x) y = andO (andO a y) x := by
  cases a <;> cases x <;> cases y <;> try rfl
  exact congrArg some (Bool.and_right_comm ..)

/-- folds with a right-commutative step are invariant under permutation of the list -/
theorem foldl_perm {α β : Type} (f : β → α → β) (hf : ∀ b x y, f (f b x) y = f (f b y) x)
    {l l' : List α} (h : l.Perm l') : ∀ b, l.foldl f b = l'.foldl f b := by
  induction h with
  | nil => intro b; rfl
  | cons x _ ih => intro b; exact ih _
  | swap x y l => intro b; simp only [List.foldl_cons]; rw [hf]
  | trans _ _ ih1 ih2 => intro b; rw [ih1, ih2]

theorem foldl_orO_perm {α : Type} (g : α → Option Bool) {l l' : List α} (h : l.Perm l') (a : Option Bool) :
    l.foldl (fun acc x => orO acc (g x)) a = l'.foldl (fun acc x => orO acc (g x)) a :=
  foldl_perm _ (fun b x y => orO_comm b (g x) (g y)) h a

theorem foldl_andO_perm {α : Type} (g : α → Option Bool) {l l' : List α} (h : l.Perm l') (a : Option Bool) :
    l.foldl (fun acc x => andO acc (g x)) a = l'.foldl (fun acc x => andO acc (g x)) a :=
  foldl_perm _ (fun b x y => andO_comm b (g x) (g y)) h a

/-- Reordering the members of a union does not change the reference semantics (every fuel, every value). -/
theorem spec_union_perm (decls : List Decl) (n : Nat) (ts ts' : List Ty) (v : JsVal) (h : ts.Perm ts') :
    Spec.mem decls (n+1) (.union ts) v = Spec.mem decls (n+1) (.union ts') v :=
  foldl_orO_perm (fun t => Spec.mem decls n t v) h (some false)

/-- Reordering the members of an intersection does not change the reference semantics. -/
theorem spec_inter_perm (decls : List Decl) (n : Nat) (ts ts' : List Ty) (v : JsVal) (h : ts.Perm ts') :
    Spec.mem decls (n+1) (.inter ts) v = Spec.mem decls (n+1) (.inter ts') v :=
  foldl_andO_perm (fun t => Spec.mem decls n t v) h (some true)

theorem memShapeWith_closed (m : Ty → JsVal → Option Bool) (ms : List (String × Bool × Ty)) (v : JsVal) :
    Spec.memShapeWith m (some (ms, none)) v = if !(v.isObjectLike && !v.isArray) then some false else
      ms.foldl (fun acc mb =>
        andO acc (if mb.2.1 && (v.getProp mb.1).isNullish then some true else m mb.2.2 (v.getProp mb.1))) (some true) := rfl

/-- Reordering the members of an object shape without index signature does not change membership. -/
theorem spec_object_members_perm (m : Ty → JsVal → Option Bool) (ms ms' : List (String × Bool × Ty))
    (v : JsVal) (h : ms.Perm ms') :
    Spec.memShapeWith m (some (ms, none)) v = Spec.memShapeWith m (some (ms', none)) v := by
  rw [memShapeWith_closed, memShapeWith_closed, foldl_andO_perm _ h]

theorem spec_ref_alias (decls : List Decl) (n : Nat) (name : String) (args : List Ty) (ps : List String) (body : Ty)
    (v : JsVal) (h : decls.find? (fun d => d.name == name) = some (.alias name ps body)) :
    Spec.mem decls (n+1) (.ref name args) v = Spec.mem decls n (Spec.subst (ps.zip args) body) v := by
  dsimp only [Spec.mem]
  rw [h]

/-- Introducing / inlining a non-generic alias: a reference to the alias means its body. -/
theorem spec_alias_unfold (decls : List Decl) (n : Nat) (name : String) (body : Ty) (v : JsVal)
    (h : decls.find? (fun d => d.name == name) = some (.alias name [] body)) :
    Spec.mem decls (n+1) (.ref name []) v = Spec.mem decls n (Spec.subst [] body) v :=
  spec_ref_alias decls n name [] [] body v h

/-- The generic identity wrapper `type Id<X> = X` is invisible: `Id<t>` means `t`. -/
theorem spec_identity_wrapper (decls : List Decl) (n : Nat) (name : String) (t : Ty) (v : JsVal)
    (h : decls.find? (fun d => d.name == name) = some (.alias name ["X"] (.ref "X" []))) :
    Spec.mem decls (n+1) (.ref name [t]) v = Spec.mem decls n t v :=
  spec_ref_alias decls n name [t] ["X"] (.ref "X" []) v h

/-- parentheses / readonly (re-exported from C01) -/
theorem spec_paren (decls : List Decl) (n : Nat) (t : Ty) (v : JsVal) :
    Spec.mem decls (n+1) (.paren t) v = Spec.mem decls n t v := C01.spec_paren decls n t v
theorem spec_readonly (decls : List Decl) (n : Nat) (t : Ty) (v : JsVal) :
    Spec.mem decls (n+1) (.readonly t) v = Spec.mem decls n t v := C01.spec_readonly decls n t v

/-- given that the scan reached a decision: `true` needs an accepting element, `false` needs every element to reject -/
theorem anyShort_agree {α : Type} {f : α → Res Bool} {l l' : List α} (h : ∀ x, x ∈ l ↔ x ∈ l') {b b' : Bool}
    (h1 : RT.anyShort f l = .ok b) (h2 : RT.anyShort f l' = .ok b') : b = b' := by
  have key : ∀ {l l' : List α}, (∀ x ∈ l, x ∈ l') → RT.anyShort f l = .ok true → RT.anyShort f l' = .ok false → False := by
    intro l l' hsub ht hf
    obtain ⟨t, ht, e⟩ := RT.anyShort_true _ _ ht
    have := (RT.anyShort_false_iff _ _).1 hf t (hsub t ht)
    rw [e] at this; cases this
  cases b with
  | true => cases b' with
    | true => rfl
    | false => exact (key (fun x => (h x).1) h1 h2).elim
  | false => cases b' with
    | false => rfl
    | true => exact (key (fun x => (h x).2) h2 h1).elim

/-- Runtime level: the order of the branches of an `AnyOfRuntype` does not change acceptance whenever both
orders give an answer. (The compiler emits union members in its own `BTreeSet` order, whatever the source order;
the statement holds of any two orders.) -/
theorem anyOf_order_irrelevant (env : Env) (strict : Bool) (n : Nat) (ts ts' : List RT) (v : JsVal)
    (h : ts.Perm ts') (b b' : Bool)
    (h1 : RT.validate env strict (n+1) (.anyOf ts) v = .ok b)
    (h2 : RT.validate env strict (n+1) (.anyOf ts') v = .ok b') : b = b' :=
  anyShort_agree (fun _ => h.mem_iff) h1 h2

/-! ## hash256 under naming rewrites is NOT invariant on the current code (known findings D11, D39, D39b, D41):
the emitted order of union members is the `BTreeSet<Runtype>` order, which compares referenced NAMES; an
intersection member that is named is not merged at compile time (its inline form is; likewise a named property type
under a key two members share); a name introduced on a recursive cycle moves the point at which the cycle is cut.
These are recorded with the hypotheses NoNamingNearUnion, NoNamedIntersectionMember, NoNamedSharedKeyInIntersection,
NoNamingWithRecursion (evaluated by the driver on every rewrite pair); for rewrites that introduce no names the check
requires equal hash256 without exception. -/

/-- all_of merges literal object members but not a named one: witness for D39 at the IR level -/
theorem named_intersection_member_not_merged :
    (match IR.allOf' [.object [("a", true, .string)] none, .object [("b", true, .number)] none] with
      | .object _ _ => true | _ => false) = true ∧
    (match IR.allOf' [.ref "A", .object [("b", true, .number)] none] with
      | .allOf _ => true | _ => false) = true := by decide +kernel

/-- … and members that share a key are merged only when the two property types are the same TERM: naming the type
under one of them keeps the intersection as `allOf` (witness for D39b at the IR level) -/
theorem shared_key_merge_is_syntactic :
    (match IR.allOf' [.object [("b", true, .const (.num "1.5"))] none,
        .object [("b", true, .const (.num "1.5")), ("t", false, .number)] none] with
      | .object _ _ => true | _ => false) = true ∧
    (match IR.allOf' [.object [("b", true, .ref "Al")] none,
        .object [("b", true, .const (.num "1.5")), ("t", false, .number)] none] with
      | .allOf _ => true | _ => false) = true := by decide +kernel

end BeffVerif.C08
