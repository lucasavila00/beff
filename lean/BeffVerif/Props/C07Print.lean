import BeffVerif.Model.ToSchema
import BeffVerif.Lemmas.Sort
import BeffVerif.Props.C05
/-!
# C07 — no negation reaches the printer (a general theorem over `removeNots`)

The printer cannot print `StNot` (printer.rs: `unreachable!`). The materialisation of a semantic type produces unions of
clauses, and a clause is an intersection of atoms and NEGATED atoms; `remove_nots_of_intersections_and_empty_of_union`
(the last step of `Exclude`) is what guarantees that no negation is left where the printer walks: on the spine of unions
and intersections from the root. D102 was the one case it did not cover (a clause that is a single negation is not an
intersection: `Exclude<unknown, Uint8Array>` panicked).

`removeNots_spine_free`: for EVERY input type, every table of named types, every context and every fuel, if the port of
that function returns a type, no negation occurs on its union / intersection spine. No hypothesis on the input.
-/
namespace BeffVerif.C07Print
open BeffVerif IR Sem C05

mutual
/-- no `stNot` on the spine of unions and intersections below the root -/
def spineFree : IR → Bool
  | .stNot _ => false
  | .anyOf ts => spineFreeL ts
  | .allOf ts => spineFreeL ts
  | _ => true
def spineFreeL : List IR → Bool
  | [] => true
  | t :: ts => spineFree t && spineFreeL ts
end

theorem spineFreeL_iff (ts : List IR) : spineFreeL ts = true ↔ ∀ t ∈ ts, spineFree t = true := by
  induction ts with
  | nil => exact ⟨fun _ _ h => (nomatch h), fun _ => rfl⟩
  | cons t ts ih => rw [spineFreeL, Bool.and_eq_true, ih, List.forall_mem_cons]

theorem mem_dedup {x : IR} {ts : List IR} (h : x ∈ IR.dedup ts) : x ∈ ts := by
  induction ts with
  | nil => exact h
  | cons t ts ih =>
    unfold IR.dedup at h
    split at h
    · exact List.mem_cons_of_mem _ (ih h)
    · exact (List.mem_cons.1 h).elim (fun e => e ▸ List.mem_cons_self) (fun h => List.mem_cons_of_mem _ (ih h))

theorem mem_setOf {x : IR} {ts : List IR} (h : x ∈ IR.setOf ts) : x ∈ ts :=
  mem_dedup ((C10.sortBy_perm _ _).mem_iff.1 h)

theorem flatten_spine : ∀ (k : Nat) (ts : List IR), (∀ t ∈ ts, spineFree t = true) →
    ∀ x ∈ IR.flattenAnyOf k ts, spineFree x = true := by
  intro k
  induction k with
  | zero => exact fun ts h x hx => h x hx
  | succ k ih =>
    intro ts h x hx
    simp only [IR.flattenAnyOf, List.mem_flatMap] at hx
    obtain ⟨t, ht, hx⟩ := hx
    split at hx
    · exact ih _ ((spineFreeL_iff _).1 (h _ ht)) x hx
    · exact List.mem_singleton.1 hx ▸ h t ht

theorem anyOf'_spine (vs : List IR) (h : ∀ t ∈ vs, spineFree t = true) : spineFree (IR.anyOf' vs) = true := by
  unfold IR.anyOf'
  split
  · rfl
  · exact h _ List.mem_cons_self
  · simp only [spineFree]
    exact (spineFreeL_iff _).2 fun x hx => flatten_spine 50 vs h x (mem_setOf hx)

theorem allOf'_spine (vs : List IR) (h : ∀ t ∈ vs, spineFree t = true) : spineFree (IR.allOf' vs) = true := by
  have hall : spineFree (.allOf (IR.setOf vs)) = true := by
    simp only [spineFree]
    exact (spineFreeL_iff _).2 fun x hx => h x (mem_setOf hx)
  unfold IR.allOf'
  split
  · exact h _ List.mem_cons_self
  · split
    · split
      · rfl
      · exact hall
    · exact hall

theorem spineFree_other (t : IR) (h1 : ∀ x, t ≠ .stNot x) (h2 : ∀ ts, t ≠ .anyOf ts) (h3 : ∀ ts, t ≠ .allOf ts) :
    spineFree t = true := by
  unfold spineFree
  split
  · exact absurd rfl (h1 _)
  · exact absurd rfl (h2 _)
  · exact absurd rfl (h3 _)
  · rfl

theorem removeNots_spine (named : Named) (n : Nat) :
    (∀ t c r c', removeNots named n t c = some (r, c') → spineFree r = true) ∧
    (∀ ts c rs c', removeNotsL named n ts c = some (rs, c') → ∀ r ∈ rs, spineFree r = true) := by
  induction n with
  | zero => exact ⟨fun _ _ _ _ h => (nomatch h), fun _ _ _ _ h => (nomatch h)⟩
  | succ n ih =>
    constructor
    · intro t c r c' h
      unfold removeNots at h
      split at h
      · -- `allOf`: `never`, or `allOf'` over rewritten members
        obtain ⟨e, c1, _, h⟩ := bind_some h
        split at h
        · rw [pure_some h]; rfl
        · obtain ⟨vs', c2, h1, h⟩ := bind_some h
          rw [pure_some h]
          exact allOf'_spine _ fun t ht => ih.2 _ _ _ _ h1 t (List.mem_filter.1 ht).1
      · -- `anyOf`: `anyOf'` over rewritten members
        obtain ⟨kept, c1, _, h⟩ := bind_some h
        obtain ⟨vs', c2, h1, h⟩ := bind_some h
        rw [pure_some h]
        exact anyOf'_spine _ (ih.2 _ _ _ _ h1)
      · -- `stNot`: becomes `any`
        rw [pure_some h]; rfl
      · -- anything else: returned as it is
        rename_i hall hany hnot
        rw [pure_some h]
        exact spineFree_other t hnot hany hall
    · intro ts c rs c' h
      unfold removeNotsL at h
      cases ts with
      | nil =>
        rw [pure_some h]
        exact fun _ hr => nomatch hr
      | cons t ts =>
        obtain ⟨x, c1, hx, h⟩ := bind_some h
        obtain ⟨xs, c2, hxs, h⟩ := bind_some h
        rw [pure_some h]
        intro r hr
        rcases List.mem_cons.1 hr with hr | hr
        · exact hr ▸ ih.1 _ _ _ _ hx
        · exact ih.2 _ _ _ _ hxs r hr

/-- **No negation reaches the printer**: whatever the input type, the named types, the context and the fuel, a type
returned by `removeNots` (the last step of `Exclude`) has no negation on its union / intersection spine. -/
theorem removeNots_spine_free (named : Named) (n : Nat) (t : IR) (c : Ctx) (r : IR) (c' : Ctx)
    (h : removeNots named n t c = some (r, c')) : spineFree r = true :=
  (removeNots_spine named n).1 t c r c' h

/-- the statement is about something: the clause of D102 (one negation, nothing else) goes in as a negation and comes
out as `any`; a union with a negated member comes out without it -/
example : removeNots [] 5 (.stNot (.typedArray "Uint8Array")) {} = some (.any, {}) := rfl
example : spineFree (.anyOf [.string, .stNot .number]) = false := by decide
example : (removeNots [] 5 (.anyOf [.string, .stNot .number]) {}).map (fun r => spineFree r.1) = some true := by
  decide +kernel

/-- **`Exclude<A, B>` hands the printer a type without a negation on its spine**: for every program, both operands and
every outcome of the engine — whenever the compiler model returns a result for `Exclude`, it is printable in this sense. -/
theorem exclude_result_spine_free (decls : List Decl) (a b : Ty) (res : SemResult)
    (h : evalSemExpr decls (.exclude a b) = some (some res)) : spineFree res.schema = true := by
  unfold evalSemExpr at h
  dsimp only at h
  -- the lowering of the operands: out of fuel, a diagnostic, or both lowered
  split at h
  · cases h
  · cases h
  · -- `finish`: the engine failed, or it returned a head type, on which `removeNots` fails or answers (`hp`)
    split at h
    · cases h
    · split at h
      · cases h
      · rename_i hp
        cases h
        exact removeNots_spine_free _ _ _ _ _ _ hp

/-- not vacuous: `Exclude<unknown, { a: string }>` (the second input of D102) and `Exclude<string | number, string>` do return a result -/
example : ((evalSemExpr [] (.exclude (.kw "unknown") (.obj [("a", false, .kw "string")] none))).map fun r => r.isSome) = some true := by
  decide +kernel
example : ((evalSemExpr [] (.exclude (.union [.kw "string", .kw "number"]) (.kw "string"))).map
    fun r => r.map fun x => IR.key x.schema) = some (some (IR.key .number)) := by decide +kernel

end BeffVerif.C07Print
