import BeffVerif.Lemmas.RT
import BeffVerif.Props.C11Frag
import BeffVerif.Model.Parse
import BeffVerif.Lemmas.Sort
/-!
# C03 — the parsed value consists only of declared parts and is accepted again (structural fragment)

"On success the returned data is itself accepted by the same validator under the same options, consists only of declared
parts of the input". `parse_strict`: for every type of the structural fragment `pfrag`, WITHOUT unions and intersections
(Map keys are parsed as well; recursion through references is allowed: the induction is on the validator's fuel), every
environment, EVERY value and every fuel: if the validator accepts `v` and the parse step (either `objectKeyOrder`) returns
`d`, then the validator accepts `d` again, in default mode (`parse_revalidates_frag`) and with `disallowExtraProperties`
(`parse_only_declared_frag`: no undeclared key survives at any depth). With unions the statement is false as it stands (the
deep merge of several matching branches carries the keys of all of them; D28, D33), with intersections too (D29, D32):
both are outside the fragment, and so are keys whose reading depends on the kind of object that holds them (members of
Object.prototype, `length`, `size`, array indices: a Set has a `size`, the parsed `{}` has none).

The object case is an invariant of the fold that builds the result key by key (`obj_fold_own`; `own` is `· ∈ v.ownKeys` in
input order, `v.hasOwn` in sorted order): every entry of the accumulator is the parsed value of a declared own property,
every declared own property has an entry; a declared property that is not an own key of the input reads `undefined` on both
sides (`getOwn_none_of_safe`, `getInherited_safe`).
-/
namespace BeffVerif.C03S
open BeffVerif RT JsVal C02F C11F

/-- a key whose reading does not depend on what kind of object holds it: not a member of Object.prototype, not an accessor of
the built-ins (`length`, `size`), not an array index -/
def safeKey (k : String) : Bool := !protoNamedKey k && k != "length" && k != "size" && (arrayIndex? k).isNone

mutual
/-- **the structural fragment without unions**: leaves, arrays, tuples with rest, Sets, Maps, optional wrappers, descriptions,
references (to anything in the environment: recursion allowed), closed object types with distinct safe keys -/
def pfrag : RT → Bool
  | .described _ t => pfrag t
  | .typeof _ | .any | .nullish _ | .const _ | .consts _ | .regex _ _ | .date | .bigint | .typed _ | .strfmt _ | .numfmt _ => true
  | .array t | .set t | .optional t => pfrag t
  | .map k v => pfrag k && pfrag v
  | .tuple pre rest => pfragL pre && (match rest with | some r => pfrag r | none => true)
  | .object props ix => ix.isEmpty && nodupB (props.map (·.1)) && pfragP props
  | .ref _ => true
  | _ => false
def pfragL : List RT → Bool
  | [] => true
  | t :: ts => pfrag t && pfragL ts
def pfragP : List (String × RT) → Bool
  | [] => true
  | (k, t) :: ps => safeKey k && pfrag t && pfragP ps
end

theorem pfragL_mem {ts : List RT} (h : pfragL ts = true) : ∀ t ∈ ts, pfrag t = true := by
  induction ts with
  | nil => intro t ht; cases ht
  | cons x xs ih =>
    dsimp only [pfragL] at h
    rw [Bool.and_eq_true] at h
    intro t ht
    rcases List.mem_cons.1 ht with e | ht
    · exact e ▸ h.1
    · exact ih h.2 t ht

theorem pfragP_mem {ps : List (String × RT)} (h : pfragP ps = true) : ∀ p ∈ ps, safeKey p.1 = true ∧ pfrag p.2 = true := by
  induction ps with
  | nil => intro p hp; cases hp
  | cons x xs ih =>
    obtain ⟨k, t⟩ := x
    dsimp only [pfragP] at h
    simp only [Bool.and_eq_true] at h
    intro p hp
    rcases List.mem_cons.1 hp with e | hp
    · subst e; exact ⟨h.1.1, h.1.2⟩
    · exact ih h.2 p hp

theorem pfrag_tuple {pre : List RT} {rest : Option RT} (h : pfrag (.tuple pre rest) = true) :
    (∀ t ∈ pre, pfrag t = true) ∧ ∀ r, rest = some r → pfrag r = true := by
  cases rest with
  | none => dsimp only [pfrag] at h; rw [Bool.and_eq_true] at h; exact ⟨pfragL_mem h.1, nofun⟩
  | some r0 => dsimp only [pfrag] at h; rw [Bool.and_eq_true] at h; exact ⟨pfragL_mem h.1, fun r e => by cases e; exact h.2⟩

theorem pfrag_object {props : List (String × RT)} {ix : List (RT × RT)} (h : pfrag (.object props ix) = true) :
    ix = [] ∧ nodupB (props.map (·.1)) = true ∧ ∀ p ∈ props, safeKey p.1 = true ∧ pfrag p.2 = true := by
  dsimp only [pfrag] at h
  simp only [Bool.and_eq_true, List.isEmpty_iff] at h
  exact ⟨h.1.1, h.1.2, pfragP_mem h.2⟩

theorem mapM'_zip_range_get {α β : Type} {f : α × Nat → Res β} {l : List α} {ys : List β}
    (h : mapM' f (l.zip (List.range l.length)) = .ok ys) (zs : List β) (d : β) :
    ∀ q ∈ l.zip (List.range l.length), f q = .ok ((ys ++ zs).getD q.2 d) := by
  intro q hq
  obtain ⟨j, hj, rfl⟩ := List.mem_iff_getElem.1 hq
  obtain ⟨y, hy1, hy2⟩ := mapM'_get h j hj
  have hj' : j < ys.length := by rw [mapM'_length h]; exact hj
  rw [hy2, List.getElem_zip, List.getElem_range, List.getD_eq_getElem?_getD, List.getElem?_append_left hj', hy1]
  rfl

theorem mapM'_zip_range_length {α β : Type} {f : α × Nat → Res β} {l : List α} {ys : List β}
    (h : mapM' f (l.zip (List.range l.length)) = .ok ys) : ys.length = l.length := by
  rw [mapM'_length h, List.length_zip, List.length_range, Nat.min_self]

/-- a value that is not an object has no key to object to: strict and default mode agree on it, for every type -/
theorem prim_strict_eq (env : Env) : ∀ (n : Nat) (t : RT) (x : JsVal), x.isObjectLike = false →
    validate env true n t x = validate env false n t x := by
  intro n
  induction n with
  | zero => intro _ _ _; rfl
  | succ n ih =>
    intro t x hx
    cases t with
    | tuple _ _ | array _ | map _ _ | set _ =>
      -- `x` is no array, Map or Set
      dsimp only [validate]
      split
      · cases hx
      · rfl
    | allOf ts =>
      dsimp only [validate]
      refine allShort_congr fun t _ => ?_
      split
      · exact ih t x hx
      · rfl
    | anyOf ts => exact anyShort_congr fun t _ => ih t x hx
    | disc ss key mp sm => dsimp only [validate]; rw [hx]; rfl
    | optional t =>
      dsimp only [validate]
      split
      · rfl
      · exact ih t x hx
    | object props ix => dsimp only [validate]; rw [hx]; rfl
    | ref name =>
      dsimp only [validate]
      split
      · exact ih _ x hx
      · rfl
    | described d t => exact ih t x hx
    | _ => rfl

theorem lookupProp_isSome_of_mem {acc : List (String × JsVal)} {k : String} (h : k ∈ acc.map (·.1)) :
    (lookupProp acc k).isSome = true := by
  obtain ⟨p, hp, rfl⟩ := List.mem_map.1 h
  obtain ⟨q, hq⟩ := Option.isSome_iff_exists.1
    ((List.find?_isSome (p := fun q => q.1 == p.1)).2 ⟨p, hp, beq_self_eq_true p.1⟩)
  rw [lookupProp, hq]
  rfl

theorem nodupB_iff {l : List String} : nodupB l = true ↔ l.Nodup := by
  induction l with
  | nil => exact ⟨fun _ => List.nodup_nil, fun _ => rfl⟩
  | cons x xs ih =>
    rw [nodupB, List.nodup_cons, Bool.and_eq_true, ih, Bool.not_eq_true', List.contains_eq_mem, decide_eq_false_iff_not]

theorem find?_key_of_nodup {α : Type} {l : List (String × α)} (hn : (l.map (·.1)).Nodup) :
    ∀ p ∈ l, l.find? (fun q => q.1 == p.1) = some p := by
  induction l with
  | nil => nofun
  | cons q qs ih =>
    intro p hp
    rw [List.map_cons, List.nodup_cons] at hn
    rw [List.find?_cons]
    rcases List.mem_cons.1 hp with rfl | hp'
    · rw [beq_self_eq_true]
    · have hne : (q.1 == p.1) = false := beq_false_of_ne fun e => hn.1 (e ▸ List.mem_map.2 ⟨p, hp', rfl⟩)
      rw [hne]
      exact ih hn.2 p hp'

theorem lookupProp'_of_nodup {props : List (String × RT)} (hn : nodupB (props.map (·.1)) = true) (p : String × RT)
    (hp : p ∈ props) : parseAV.lookupProp' props p.1 = some p.2 := by
  rw [parseAV.lookupProp', find?_key_of_nodup (nodupB_iff.1 hn) p hp]

theorem obj_fold_own (own : String → Prop) (props : List (String × RT)) (pf : RT → JsVal → Res JsVal) (v : JsVal)
    (step : List (String × JsVal) → String → Res (List (String × JsVal))) :
    ∀ (ks : List String) (acc0 acc : List (String × JsVal)),
      (∀ k ∈ ks, ∀ acc acc', step acc k = .ok acc' →
        (∃ t y, own k ∧ parseAV.lookupProp' props k = some t ∧ pf t (v.getProp k) = .ok y ∧ acc' = setProp acc k y) ∨
        ((¬ own k ∨ parseAV.lookupProp' props k = none) ∧ acc' = acc)) →
      (∀ k y, lookupProp acc0 k = some y → own k ∧ ∃ t, parseAV.lookupProp' props k = some t ∧ pf t (v.getProp k) = .ok y) →
      foldRes step acc0 ks = .ok acc →
      (∀ k y, lookupProp acc k = some y → own k ∧ ∃ t, parseAV.lookupProp' props k = some t ∧ pf t (v.getProp k) = .ok y) ∧
      (∀ k, (lookupProp acc0 k).isSome = true → (lookupProp acc k).isSome = true) ∧
      (∀ k ∈ ks, own k → (parseAV.lookupProp' props k).isSome = true → (lookupProp acc k).isSome = true) := by
  intro ks
  induction ks with
  | nil =>
    intro acc0 acc _ hinv hf
    cases hf
    exact ⟨hinv, fun _ h => h, fun k hk => by cases hk⟩
  | cons k ks ih =>
    intro acc0 acc hstep hinv hf
    obtain ⟨acc1, hs, hf'⟩ := foldRes_cons_ok hf
    have ih := ih acc1 acc (fun k' hk' => hstep k' (List.mem_cons_of_mem _ hk'))
    rcases hstep k List.mem_cons_self acc0 acc1 hs with ⟨t, y, how, hl, hpy, rfl⟩ | ⟨hno, rfl⟩
    · have hinv1 : ∀ k' y', lookupProp (setProp acc0 k y) k' = some y' →
          own k' ∧ ∃ t, parseAV.lookupProp' props k' = some t ∧ pf t (v.getProp k') = .ok y' := by
        intro k' y' h
        rw [lookup_setProp] at h
        by_cases e : k' = k
        · subst e
          rw [if_pos rfl] at h
          cases h
          exact ⟨how, t, hl, hpy⟩
        · rw [if_neg e] at h
          exact hinv k' y' h
      obtain ⟨h1, h2, h3⟩ := ih hinv1 hf'
      have hset : ∀ k', (k' = k ∨ (lookupProp acc0 k').isSome = true) → (lookupProp acc k').isSome = true := by
        intro k' hk'
        apply h2
        rw [lookup_setProp]
        by_cases e : k' = k
        · rw [if_pos e]; rfl
        · rw [if_neg e]; exact hk'.resolve_left e
      refine ⟨h1, fun k' hk' => hset k' (Or.inr hk'), fun k' hk' ho hd => ?_⟩
      rcases List.mem_cons.1 hk' with e | hk''
      · exact hset k' (Or.inl e)
      · exact h3 k' hk'' ho hd
    · obtain ⟨h1, h2, h3⟩ := ih hinv hf'
      refine ⟨h1, h2, fun k' hk' ho hd => ?_⟩
      rcases List.mem_cons.1 hk' with rfl | hk''
      · rcases hno with hno | hno
        · exact absurd ho hno
        · rw [hno] at hd; cases hd
      · exact h3 k' hk'' ho hd

/-- what the object branch of the parse step builds, key by key -/
theorem obj_fold (props : List (String × RT)) (pf : RT → JsVal → Res JsVal) (v : JsVal) (allKeys : List String)
    (step : List (String × JsVal) → String → Res (List (String × JsVal)))
    (hstep : ∀ acc k acc', step acc k = .ok acc' →
      (∃ t y, parseAV.lookupProp' props k = some t ∧ pf t (v.getProp k) = .ok y ∧ acc' = setProp acc k y) ∨
      (parseAV.lookupProp' props k = none ∧ acc' = acc)) :
    ∀ (ks : List String) (acc0 acc : List (String × JsVal)), (∀ k ∈ ks, k ∈ allKeys) →
      (∀ k y, lookupProp acc0 k = some y → k ∈ allKeys ∧ ∃ t, parseAV.lookupProp' props k = some t ∧ pf t (v.getProp k) = .ok y) →
      foldRes step acc0 ks = .ok acc →
      (∀ k y, lookupProp acc k = some y → k ∈ allKeys ∧ ∃ t, parseAV.lookupProp' props k = some t ∧ pf t (v.getProp k) = .ok y) ∧
      (∀ k, (lookupProp acc0 k).isSome = true → (lookupProp acc k).isSome = true) ∧
      (∀ k ∈ ks, (parseAV.lookupProp' props k).isSome = true → (lookupProp acc k).isSome = true) := by
  intro ks acc0 acc hks hinv hf
  obtain ⟨h1, h2, h3⟩ := obj_fold_own (· ∈ allKeys) props pf v step ks acc0 acc (fun k hk acc acc' hs => by
    rcases hstep acc k acc' hs with ⟨t, y, hl, hpy, e⟩ | ⟨hl, e⟩
    · exact Or.inl ⟨t, y, hks k hk, hl, hpy, e⟩
    · exact Or.inr ⟨Or.inr hl, e⟩) hinv hf
  exact ⟨h1, h2, fun k hk => h3 k hk (hks k hk)⟩

/-- the same with the fold first (so that the step function is read off the hypothesis) -/
theorem obj_fold' (props : List (String × RT)) (pf : RT → JsVal → Res JsVal) (v : JsVal)
    (step : List (String × JsVal) → String → Res (List (String × JsVal))) (acc : List (String × JsVal))
    (hf : foldRes step [] v.ownKeys = .ok acc)
    (hstep : ∀ acc k acc', step acc k = .ok acc' →
      (∃ t y, parseAV.lookupProp' props k = some t ∧ pf t (v.getProp k) = .ok y ∧ acc' = setProp acc k y) ∨
      (parseAV.lookupProp' props k = none ∧ acc' = acc)) :
    (∀ k y, lookupProp acc k = some y → k ∈ v.ownKeys ∧ ∃ t, parseAV.lookupProp' props k = some t ∧ pf t (v.getProp k) = .ok y) ∧
    (∀ k ∈ v.ownKeys, (parseAV.lookupProp' props k).isSome = true → (lookupProp acc k).isSome = true) := by
  obtain ⟨h1, _, h3⟩ := obj_fold props pf v v.ownKeys step hstep v.ownKeys [] acc (fun _ h => h)
    (fun k y h => by cases h) hf
  exact ⟨h1, h3⟩

/-- the fold of the `objectKeyOrder: "sorted"` branch: over the declared keys, own properties only -/
theorem obj_fold_sorted (props : List (String × RT)) (pf : RT → JsVal → Res JsVal) (v : JsVal)
    (step : List (String × JsVal) → String → Res (List (String × JsVal)))
    (hstep : ∀ acc k acc', step acc k = .ok acc' →
      (∃ t y, v.hasOwn k = true ∧ parseAV.lookupProp' props k = some t ∧ pf t (v.getProp k) = .ok y ∧ acc' = setProp acc k y) ∨
      ((v.hasOwn k = false ∨ parseAV.lookupProp' props k = none) ∧ acc' = acc)) :
    ∀ (ks : List String) (acc0 acc : List (String × JsVal)),
      (∀ k y, lookupProp acc0 k = some y → v.hasOwn k = true ∧ ∃ t, parseAV.lookupProp' props k = some t ∧ pf t (v.getProp k) = .ok y) →
      foldRes step acc0 ks = .ok acc →
      (∀ k y, lookupProp acc k = some y → v.hasOwn k = true ∧ ∃ t, parseAV.lookupProp' props k = some t ∧ pf t (v.getProp k) = .ok y) ∧
      (∀ k, (lookupProp acc0 k).isSome = true → (lookupProp acc k).isSome = true) ∧
      (∀ k ∈ ks, v.hasOwn k = true → (parseAV.lookupProp' props k).isSome = true → (lookupProp acc k).isSome = true) := by
  intro ks acc0 acc hinv hf
  exact obj_fold_own (v.hasOwn · = true) props pf v step ks acc0 acc (fun k _ acc acc' hs => by
    rcases hstep acc k acc' hs with h | ⟨hno, e⟩
    · exact Or.inl h
    · exact Or.inr ⟨hno.imp_left fun h => by rw [h]; nofun, e⟩) hinv hf

theorem getOwn_protoObj (s k : String) (hlen : ¬ k = "length") : getOwn? (.protoObj s) k = none := by
  refine getOwn?.eq_5 _ _ ?_ ?_ ?_ fun _ h => hlen h
  · intro _ h; cases h
  · intro _ h; cases h
  · intro _ _ h; cases h

theorem getOwn_none_of_safe (v : JsVal) (k : String) (hs : safeKey k = true) (hobj : (v.isObjectLike && !v.isArray) = true)
    (hk : k ∉ v.ownKeys) : getOwn? v k = none := by
  simp only [safeKey, Bool.and_eq_true, Bool.not_eq_true', bne_iff_ne, ne_eq, Option.isNone_iff_eq_none] at hs
  obtain ⟨⟨⟨_, hlen⟩, _⟩, hidx⟩ := hs
  cases v with
  | obj ps =>
    cases hl : lookupProp ps k with
    | none => exact hl
    | some y => exact absurd (List.mem_map.2 ⟨(k, y), lookupProp_mem hl, rfl⟩) hk
  | arr items => simp [isArray] at hobj
  | typed c items => simp only [getOwn?, hidx]
  | protoObj s => exact getOwn_protoObj s k hlen
  | _ => rfl

theorem getInherited_safe (v : JsVal) (k : String) (hs : safeKey k = true) : getInherited v k = .undef := by
  simp only [safeKey, Bool.and_eq_true, Bool.not_eq_true', bne_iff_ne, ne_eq, protoNamedKey, Bool.or_eq_false_iff, beq_eq_false_iff_ne] at hs
  obtain ⟨⟨⟨⟨hp1, hp2⟩, hlen⟩, hsize⟩, _⟩ := hs
  unfold getInherited
  simp only [hp2, beq_eq_false_iff_ne.2 hp1, Bool.false_eq_true, if_false]
  split <;> simp_all

theorem getProp_undef_of_safe {v : JsVal} {k : String} (hs : safeKey k = true) (h : getOwn? v k = none) : v.getProp k = .undef := by
  simp only [getProp, h]
  exact getInherited_safe v k hs

theorem getProp_obj_of_lookup {acc : List (String × JsVal)} {k : String} {y : JsVal} (h : lookupProp acc k = some y) :
    (JsVal.obj acc).getProp k = y := by
  simp only [getProp, getOwn?, h]

theorem res_ok_inj {α : Type} {a b : α} (h : (Res.ok a : Res α) = .ok b) : a = b := by cases h; rfl

section inversion
variable {env : Env} {o : ParseOpts} {n : Nat} {v d : JsVal}

theorem parseAV_optional {t : RT} (h : parseAV env o (n+1) (.optional t) v = .ok d) :
    (v.isNullish = true ∧ d = v) ∨ (v.isNullish = false ∧ parseAV env o n t v = .ok d) := by
  dsimp only [parseAV] at h
  cases hn : v.isNullish with
  | true => rw [hn, if_pos rfl] at h; cases h; exact Or.inl ⟨rfl, rfl⟩
  | false => rw [hn, if_neg Bool.false_ne_true] at h; exact Or.inr ⟨rfl, h⟩

theorem parseAV_ref {name : String} (h : parseAV env o (n+1) (.ref name) v = .ok d) :
    ∃ t, env.lookup name = some t ∧ parseAV env o n t v = .ok d := by
  dsimp only [parseAV] at h
  cases hl : env.lookup name with
  | none => rw [hl] at h; cases h
  | some t => rw [hl] at h; exact ⟨t, rfl, h⟩

theorem parseAV_array {t : RT} (h : parseAV env o (n+1) (.array t) v = .ok d) :
    ∃ xs rs, v = .arr xs ∧ d = .arr rs ∧ mapM' (parseAV env o n t) xs = .ok rs := by
  cases v with
  | arr xs =>
    dsimp only [parseAV] at h
    cases hm : mapM' (fun x => parseAV env o n t x) xs with
    | ok rs => rw [hm] at h; cases h; exact ⟨xs, rs, rfl, rfl, hm⟩
    | throw c => rw [hm] at h; cases h
    | nofuel => rw [hm] at h; cases h
  | _ => cases h

theorem parseAV_array_of {t : RT} {xs rs : List JsVal} (hm : mapM' (parseAV env o n t) xs = .ok rs) :
    parseAV env o (n+1) (.array t) (.arr xs) = .ok (.arr rs) := by
  dsimp only [parseAV]
  rw [hm]

theorem parseAV_set {t : RT} (h : parseAV env o (n+1) (.set t) v = .ok d) :
    ∃ xs rs, v = .set xs ∧ d = .set rs ∧ mapM' (parseAV env o n t) xs = .ok rs := by
  cases v with
  | set xs =>
    dsimp only [parseAV] at h
    cases hm : mapM' (fun x => parseAV env o n t x) xs with
    | ok rs => rw [hm] at h; cases h; exact ⟨xs, rs, rfl, rfl, hm⟩
    | throw c => rw [hm] at h; cases h
    | nofuel => rw [hm] at h; cases h
  | _ => cases h

theorem parseAV_set_of {t : RT} {xs rs : List JsVal} (hm : mapM' (parseAV env o n t) xs = .ok rs) :
    parseAV env o (n+1) (.set t) (.set xs) = .ok (.set rs) := by
  dsimp only [parseAV]
  rw [hm]

def parseEntry (pf : RT → JsVal → Res JsVal) (kt vt : RT) (e : JsVal × JsVal) : Res (JsVal × JsVal) :=
  match pf kt e.1 with
  | .ok k => match pf vt e.2 with
    | .ok v => .ok (k, v)
    | .throw c => .throw c
    | .nofuel => .nofuel
  | .throw c => .throw c
  | .nofuel => .nofuel

theorem parseEntry_ok_iff {pf : RT → JsVal → Res JsVal} {kt vt : RT} {e y : JsVal × JsVal} :
    parseEntry pf kt vt e = .ok y ↔ pf kt e.1 = .ok y.1 ∧ pf vt e.2 = .ok y.2 := by
  unfold parseEntry
  cases hk : pf kt e.1 with
  | ok k =>
    cases hv : pf vt e.2 with
    | ok v => exact ⟨fun h => by cases h; exact ⟨rfl, rfl⟩, fun ⟨h1, h2⟩ => by cases h1; cases h2; rfl⟩
    | throw c => exact ⟨nofun, fun h => nomatch h.2⟩
    | nofuel => exact ⟨nofun, fun h => nomatch h.2⟩
  | throw c => exact ⟨nofun, fun h => nomatch h.1⟩
  | nofuel => exact ⟨nofun, fun h => nomatch h.1⟩

theorem parseAV_map {kt vt : RT} (h : parseAV env o (n+1) (.map kt vt) v = .ok d) :
    ∃ es rs, v = .map es ∧ d = .map rs ∧ mapM' (parseEntry (parseAV env o n) kt vt) es = .ok rs := by
  cases v with
  | map es =>
    dsimp only [parseAV] at h
    split at h
    · rename_i rs hm
      cases h
      exact ⟨es, rs, rfl, rfl, hm⟩
    · cases h
    · cases h
  | _ => cases h

theorem parseAV_map_of {kt vt : RT} {es rs : List (JsVal × JsVal)} (hm : mapM' (parseEntry (parseAV env o n) kt vt) es = .ok rs) :
    parseAV env o (n+1) (.map kt vt) (.map es) = .ok (.map rs) := by
  dsimp only [parseAV]
  split
  · rename_i rs' hm'; cases hm.symm.trans hm'; rfl
  · rename_i hm'; cases hm.symm.trans hm'
  · rename_i hm'; cases hm.symm.trans hm'

theorem parseAV_tuple {pre : List RT} {rest : Option RT} (h : parseAV env o (n+1) (.tuple pre rest) v = .ok d) :
    ∃ xs ps rs, v = .arr xs ∧ d = .arr (ps ++ rs) ∧
      mapM' (fun (p : RT × Nat) => parseAV env o n p.1 (xs.getD p.2 .undef)) (pre.zip (List.range pre.length)) = .ok ps ∧
      (∀ r, rest = some r → mapM' (parseAV env o n r) (xs.drop pre.length) = .ok rs) ∧ (rest = none → rs = []) := by
  cases v with
  | arr xs =>
    dsimp only [parseAV] at h
    cases hm : mapM' (fun (p : RT × Nat) => parseAV env o n p.1 (xs.getD p.2 .undef)) (pre.zip (List.range pre.length)) with
    | ok ps =>
      rw [hm] at h
      cases rest with
      | none => cases h; exact ⟨xs, ps, [], rfl, by rw [List.append_nil], hm, nofun, fun _ => rfl⟩
      | some r =>
        dsimp only at h
        cases hr : mapM' (fun x => parseAV env o n r x) (xs.drop pre.length) with
        | ok rs => rw [hr] at h; cases h; exact ⟨xs, ps, rs, rfl, rfl, hm, fun r' e => by cases e; exact hr, nofun⟩
        | throw c => rw [hr] at h; cases h
        | nofuel => rw [hr] at h; cases h
    | throw c => rw [hm] at h; cases h
    | nofuel => rw [hm] at h; cases h
  | _ => cases h

theorem parseAV_tuple_of {pre : List RT} {rest : Option RT} {xs ps rs : List JsVal}
    (hm : mapM' (fun (p : RT × Nat) => parseAV env o n p.1 (xs.getD p.2 .undef)) (pre.zip (List.range pre.length)) = .ok ps)
    (hr : ∀ r, rest = some r → mapM' (parseAV env o n r) (xs.drop pre.length) = .ok rs) (hnone : rest = none → rs = []) :
    parseAV env o (n+1) (.tuple pre rest) (.arr xs) = .ok (.arr (ps ++ rs)) := by
  dsimp only [parseAV]
  rw [hm]
  cases rest with
  | none => rw [hnone rfl, List.append_nil]
  | some r => dsimp only; rw [hr r rfl]

theorem parseAV_object_input {props : List (String × RT)} (ho : o.sorted = false)
    (h : parseAV env o (n+1) (.object props []) v = .ok d) :
    ∃ acc step, d = .obj acc ∧ foldRes step [] v.ownKeys = .ok acc ∧
      ∀ acc k acc', step acc k = .ok acc' →
        (∃ t y, parseAV.lookupProp' props k = some t ∧ parseAV env o n t (v.getProp k) = .ok y ∧ acc' = setProp acc k y) ∨
        (parseAV.lookupProp' props k = none ∧ acc' = acc) := by
  dsimp only [parseAV] at h
  rw [ho] at h
  simp only [Bool.not_false, if_true] at h
  split at h
  · rename_i acc hfold
    cases h
    refine ⟨acc, _, rfl, hfold, fun acc k acc' hs => ?_⟩
    cases hl : parseAV.lookupProp' props k with
    | none => rw [hl] at hs; cases hs; exact Or.inr ⟨rfl, rfl⟩
    | some t =>
      rw [hl] at hs
      dsimp only at hs
      cases hp : parseAV env o n t (v.getProp k) with
      | ok y => rw [hp] at hs; cases hs; exact Or.inl ⟨t, y, rfl, hp, rfl⟩
      | throw c => rw [hp] at hs; cases hs
      | nofuel => rw [hp] at hs; cases hs
  · cases h
  · cases h

theorem parseAV_object_sorted {props : List (String × RT)} (ho : o.sorted = true)
    (h : parseAV env o (n+1) (.object props []) v = .ok d) :
    ∃ acc step, d = .obj acc ∧ foldRes step [] (sortStrings (props.map (·.1))) = .ok acc ∧
      ∀ acc k acc', step acc k = .ok acc' →
        (∃ t y, v.hasOwn k = true ∧ parseAV.lookupProp' props k = some t ∧ parseAV env o n t (v.getProp k) = .ok y ∧
          acc' = setProp acc k y) ∨
        ((v.hasOwn k = false ∨ parseAV.lookupProp' props k = none) ∧ acc' = acc) := by
  dsimp only [parseAV] at h
  rw [ho] at h
  simp only [Bool.not_true, Bool.false_eq_true, if_false, List.length_nil, Nat.lt_irrefl, gt_iff_lt] at h
  split at h
  · rename_i acc hfold
    cases h
    refine ⟨acc, _, rfl, hfold, fun acc k acc' hs => ?_⟩
    cases how : v.hasOwn k with
    | false => rw [how] at hs; cases hs; exact Or.inr ⟨Or.inl rfl, rfl⟩
    | true =>
      rw [how] at hs
      simp only [Bool.not_true, Bool.false_eq_true, if_false] at hs
      cases hl : parseAV.lookupProp' props k with
      | none => rw [hl] at hs; cases hs; exact Or.inr ⟨Or.inr rfl, rfl⟩
      | some t =>
        rw [hl] at hs
        dsimp only at hs
        cases hp : parseAV env o n t (v.getProp k) with
        | ok y => rw [hp] at hs; cases hs; exact Or.inl ⟨t, y, rfl, rfl, hp, rfl⟩
        | throw c => rw [hp] at hs; cases hs
        | nofuel => rw [hp] at hs; cases hs
  · cases h
  · cases h

theorem parse_object {props : List (String × RT)} (h : parseAV env o (n+1) (.object props []) v = .ok d) :
    ∃ acc, ∃ own : String → Prop, (own = (· ∈ v.ownKeys) ∨ own = (v.hasOwn · = true)) ∧ d = .obj acc ∧
      (∀ k y, lookupProp acc k = some y →
        own k ∧ ∃ t, parseAV.lookupProp' props k = some t ∧ parseAV env o n t (v.getProp k) = .ok y) ∧
      (∀ k, own k → (parseAV.lookupProp' props k).isSome = true → (lookupProp acc k).isSome = true) := by
  cases ho : o.sorted with
  | false =>
    obtain ⟨acc, step, rfl, hf, hstep⟩ := parseAV_object_input ho h
    exact ⟨acc, _, Or.inl rfl, rfl, obj_fold' props _ v step acc hf hstep⟩
  | true =>
    obtain ⟨acc, step, rfl, hf, hstep⟩ := parseAV_object_sorted ho h
    obtain ⟨hinv, _, hcov⟩ := obj_fold_sorted props _ v step hstep _ [] acc (fun k y h => by cases h) hf
    refine ⟨acc, _, Or.inr rfl, rfl, hinv, fun k how hd => hcov k ?_ how hd⟩
    obtain ⟨t, hl⟩ := Option.isSome_iff_exists.1 hd
    exact (C10.sortBy_perm _ _).mem_iff.2 (List.mem_map.2 ⟨_, lookupProp'_mem hl, rfl⟩)

end inversion

/-- **Parsed data consists only of declared parts and is accepted again** (structural fragment, any parse options): whatever
the value, if the validator accepts it and the parse step returns `d`, the same validator accepts `d` — in default mode
(`s = false`: re-validation) and in STRICT mode (`s = true`: `d` has no undeclared key at any depth, Map keys included) -/
theorem parse_valid (env : Env) (henv : ∀ name t, env.lookup name = some t → pfrag t = true) (s : Bool) (o : ParseOpts) :
    ∀ (n : Nat) (t : RT) (v d : JsVal), pfrag t = true → validate env false n t v = .ok true →
      parseAV env o n t v = .ok d → validate env s n t d = .ok true := by
  intro n
  induction n with
  | zero => intro _ _ _ _ hv; cases hv
  | succ n ih =>
    intro t v d hf hv hp
    cases t with
    | described ds t => exact ih t v d hf hv hp
    | optional t =>
      dsimp only [validate] at hv ⊢
      rcases parseAV_optional hp with ⟨hn, rfl⟩ | ⟨hn, hp'⟩
      · rw [if_pos hn]
      · rw [hn, if_neg Bool.false_ne_true] at hv
        split
        · rfl
        · exact ih t v d hf hv hp'
    | ref name =>
      obtain ⟨t', hl, hp'⟩ := parseAV_ref hp
      dsimp only [validate] at hv ⊢
      rw [hl] at hv ⊢
      exact ih t' v d (henv name t' hl) hv hp'
    | array t =>
      obtain ⟨xs, rs, rfl, rfl, hm⟩ := parseAV_array hp
      refine (allShort_true_iff _ _).2 fun y hy => ?_
      obtain ⟨x, hx, e⟩ := mapM'_mem hm y hy
      exact ih t x y hf ((allShort_true_iff _ _).1 hv x hx) e
    | set t =>
      obtain ⟨xs, rs, rfl, rfl, hm⟩ := parseAV_set hp
      refine (allShort_true_iff _ _).2 fun y hy => ?_
      obtain ⟨x, hx, e⟩ := mapM'_mem hm y hy
      exact ih t x y hf ((allShort_true_iff _ _).1 hv x hx) e
    | map kt vt =>
      obtain ⟨es, rs, rfl, rfl, hm⟩ := parseAV_map hp
      have hf : pfrag kt = true ∧ pfrag vt = true := Bool.and_eq_true_iff.1 hf
      refine (allShort_true_iff _ _).2 fun y hy => ?_
      obtain ⟨e, he, hy'⟩ := mapM'_mem hm y hy
      obtain ⟨hk, hv'⟩ := parseEntry_ok_iff.1 hy'
      obtain ⟨vk, vv⟩ := Res.andThen_eq_true.1 ((allShort_true_iff _ _).1 hv e he)
      exact Res.andThen_eq_true.2 ⟨ih kt e.1 y.1 hf.1 vk hk, ih vt e.2 y.2 hf.2 vv hv'⟩
    | tuple pre rest =>
      obtain ⟨xs, ps, rs, rfl, rfl, hm, hr, hnone⟩ := parseAV_tuple hp
      obtain ⟨hpre, hrest⟩ := pfrag_tuple hf
      obtain ⟨v1, v2, _⟩ := (tuple_ok_iff env false n pre rest xs).1 hv
      have hlen := mapM'_zip_range_length hm
      refine (tuple_ok_iff env s n pre rest (ps ++ rs)).2 ⟨fun q hq => ?_, fun r e x hx => ?_, fun e => ?_⟩
      · exact ih q.1 _ _ (hpre q.1 (List.of_mem_zip hq).1) (v1 q hq) (mapM'_zip_range_get hm rs .undef q hq)
      · rw [← hlen, List.drop_left] at hx
        obtain ⟨x0, hx0, ex⟩ := mapM'_mem (hr r e) x hx
        exact ih r x0 x (hrest r e) (v2 r e x0 hx0) ex
      · rw [hnone e, List.append_nil, hlen]
        exact Nat.le_refl _
    | object props ix =>
      obtain ⟨rfl, hnd, hpp⟩ := pfrag_object hf
      obtain ⟨hobj, hprops, _⟩ := (object_ok_iff env false n props v).1 hv
      obtain ⟨acc, own, ho, rfl, hinv, hcov⟩ := parse_object hp
      have hown : ∀ k, safeKey k = true → ¬ own k → getOwn? v k = none := by
        rcases ho with rfl | rfl
        · exact fun k hs hk => getOwn_none_of_safe v k hs hobj hk
        · exact fun k _ hk => Option.not_isSome_iff_eq_none.1 hk
      refine (object_ok_iff env s n props (.obj acc)).2 ⟨rfl, fun p hp' => ?_, fun _ => List.all_eq_true.2 fun k hk => ?_⟩
      · have hl := lookupProp'_of_nodup hnd p hp'
        have hvp := hprops p hp'
        cases hg : lookupProp acc p.1 with
        | some y =>
          obtain ⟨_, t, hl', hpy⟩ := hinv p.1 y hg
          rw [hl] at hl'
          cases hl'
          rw [getProp_obj_of_lookup hg]
          exact ih p.2 _ y (hpp p hp').2 hvp hpy
        | none =>
          -- no entry, so no property of the input: `undefined` there and here
          have hno : ¬ own p.1 := fun how => by
            have := hcov p.1 how (by rw [hl]; rfl)
            rw [hg] at this
            cases this
          have hs := (hpp p hp').1
          rw [getProp_undef_of_safe hs (hown p.1 hs hno)] at hvp
          rw [getProp_undef_of_safe (v := .obj acc) hs hg]
          cases s with
          | true => rw [prim_strict_eq env n p.2 .undef rfl]; exact hvp
          | false => exact hvp
      · obtain ⟨y, hg⟩ := Option.isSome_iff_exists.1 (lookupProp_isSome_of_mem hk)
        obtain ⟨_, t, hl, _⟩ := hinv k y hg
        exact List.contains_iff_mem.2 (List.mem_map.2 ⟨_, lookupProp'_mem hl, rfl⟩)
    | typeof _ | any | nullish _ | const _ | consts _ | regex _ _ | date | bigint | typed _ | strfmt _ | numfmt _ =>
      cases hp
      exact hv
    | never | allOf _ | anyOf _ | disc _ _ _ _ => cases hf

/-- `parse_valid` for the parse options `{ disallowExtraProperties: false }`, either key order; `s` is the mode in which the
parsed value is validated again -/
theorem parse_strict (env : Env) (henv : ∀ name t, env.lookup name = some t → pfrag t = true) (s srt : Bool) :
    ∀ (n : Nat) (t : RT) (v d : JsVal), pfrag t = true → validate env false n t v = .ok true →
      parseAV env ⟨false, srt⟩ n t v = .ok d → validate env s n t d = .ok true :=
  parse_valid env henv s ⟨false, srt⟩

/-- re-validation: the parsed value is accepted by the same validator under the same (default) options -/
theorem parse_revalidates_frag (env : Env) (henv : ∀ name t, env.lookup name = some t → pfrag t = true)
    (srt : Bool) (n : Nat) (t : RT) (v d : JsVal) (hf : pfrag t = true) (hv : validate env false n t v = .ok true)
    (hp : parseAV env ⟨false, srt⟩ n t v = .ok d) : validate env false n t d = .ok true :=
  parse_strict env henv false srt n t v d hf hv hp

/-- only declared parts: the parsed value passes the validator with `disallowExtraProperties` -/
theorem parse_only_declared_frag (env : Env) (henv : ∀ name t, env.lookup name = some t → pfrag t = true)
    (srt : Bool) (n : Nat) (t : RT) (v d : JsVal) (hf : pfrag t = true) (hv : validate env false n t v = .ok true)
    (hp : parseAV env ⟨false, srt⟩ n t v = .ok d) : validate env true n t d = .ok true :=
  parse_strict env henv true srt n t v d hf hv hp

/-- `type Node = { id: string; kids?: Node[]; tags: Map<{ k: string }, number> }`, a recursive type of the fragment -/
def exEnv : Env := [("Node", .object [("id", .typeof "string"), ("kids", .optional (.array (.ref "Node"))),
  ("tags", .map (.object [("k", .typeof "string")] []) (.typeof "number"))] [])]
/-- a value with surplus keys at three places: the root, a child, and a KEY of the Map -/
def exVal : JsVal := .obj [("id", .str "a"), ("extra", .num "1"),
  ("kids", .arr [.obj [("id", .str "b"), ("zz", .null), ("tags", .map [])]]),
  ("tags", .map [(.obj [("k", .str "x"), ("surplus", .bool true)], .num "2")])]

/-- evaluated once: separately the kernel would compare the same strings again for each example -/
theorem ex_checks :
    (∀ p ∈ exEnv, pfrag p.2 = true) ∧ validate exEnv false 10 (.ref "Node") exVal = .ok true ∧
    validate exEnv true 10 (.ref "Node") exVal = .ok false ∧
    (match parseAV exEnv ⟨false, false⟩ 10 (.ref "Node") exVal with
      | .ok d => validate exEnv true 10 (.ref "Node") d | _ => .nofuel) = .ok true := by
  decide +kernel

example : (∀ name t, exEnv.lookup name = some t → pfrag t = true) := by
  intro name t h
  unfold Env.lookup at h
  split at h
  · rename_i p hp
    cases h
    exact ex_checks.1 p (List.mem_of_find?_eq_some hp)
  · cases h
example : validate exEnv false 10 (.ref "Node") exVal = .ok true := ex_checks.2.1
example : validate exEnv true 10 (.ref "Node") exVal = .ok false := ex_checks.2.2.1
/-- the parsed value dropped all three surplus keys, the one inside the Map key included, and passes strict validation -/
example : (match parseAV exEnv ⟨false, false⟩ 10 (.ref "Node") exVal with
    | .ok d => validate exEnv true 10 (.ref "Node") d | _ => .nofuel) = .ok true := ex_checks.2.2.2

end BeffVerif.C03S
