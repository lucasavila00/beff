import Std.Data.String.ToNat
import BeffVerif.Model.ToSchema
/-!
# C07 — helper types introduced for recursion are defined exactly once

The materialisation of a semantic type (`Sem.toSchema` and the five functions it is mutually recursive with: the port of
`to_schema.rs`) names the types it meets again while converting them `RecursiveGenerated<n>`, with `n` drawn from a counter
that the frontend threads from one materialisation to the next. `claims`: each of the six functions, whenever it returns,
only ever ADDS definitions, under generated names whose numbers lie strictly
above the counter it started from and at most at the counter it leaves (`Ext`; the relation composes through the monadic
glue: `spec_bind`, `spec_mapM`, `spec_filterMapM` over a `LawfulMonad` instance for the state monad of the port). Hence
`helper_names_defined_once`: the helper definitions `semtype_to_runtype` hands to code generation carry pairwise different
names, all of the form `RecursiveGenerated<k>` with `counter < k ≤ counter'`; and `helper_names_disjoint`: two
materialisations in a row never share a helper name. (That a DECLARED type may not carry such a name either is the repaired
D107, at the level of the printer. Non-vacuity: `C07.recursive_result_keeps_its_definition`, a materialisation whose result
refers to a helper.)
-/
namespace BeffVerif.C07N
open BeffVerif Sem

def gen (k : Nat) : String := "RecursiveGenerated" ++ toString k

theorem gen_inj {a b : Nat} (h : gen a = gen b) : a = b := by
  unfold gen at h
  have h1 : ("RecursiveGenerated" ++ toString a).toList = ("RecursiveGenerated" ++ toString b).toList := by rw [h]
  simp only [String.toList_append] at h1
  have h2 := List.append_cancel_left h1
  have h3 : toString a = toString b := String.toList_inj.1 h2
  exact Nat.repr_injective h3

instance : LawfulMonad TM := LawfulMonad.mk' TM
  (id_map := by
    intro α x
    funext c s
    show (match x c s with | some (a, c', s') => some (id a, c', s') | none => none) = x c s
    cases x c s with
    | none => rfl
    | some r => rfl)
  (pure_bind := fun _ _ => rfl)
  (bind_assoc := by
    intro α β γ x f g
    funext c s
    show (match (match x c s with | some (a, c', s') => f a c' s' | none => none) with
      | some (b, c', s') => g b c' s' | none => none) =
      (match x c s with | some (a, c', s') => (match f a c' s' with | some (b, c'', s'') => g b c'' s'' | none => none) | none => none)
    cases x c s with
    | none => rfl
    | some r => rfl)

theorem tm_bind_apply {α β : Type} (m : TM α) (f : α → TM β) (c : Ctx) (s : Schemer) :
    (m >>= f) c s = match m c s with | some (a, c1, s1) => f a c1 s1 | none => none := rfl
theorem tm_pure_apply {α : Type} (a : α) (c : Ctx) (s : Schemer) : (pure a : TM α) c s = some (a, c, s) := rfl

/-- `s'` extends `s` by helper definitions under fresh generated names -/
def Ext (s s' : Schemer) : Prop :=
  s.counter ≤ s'.counter ∧ ∃ added : List (Nat × IR), s'.validators = s.validators ++ added.map (fun p => (gen p.1, p.2)) ∧
    (added.map (·.1)).Nodup ∧ ∀ k ∈ added.map (·.1), s.counter < k ∧ k ≤ s'.counter

theorem ext_same {s s' : Schemer} (h1 : s.counter ≤ s'.counter) (h2 : s'.validators = s.validators) : Ext s s' :=
  ⟨h1, [], by rw [h2, List.map_nil, List.append_nil], List.nodup_nil, fun _ hk => nomatch hk⟩

theorem ext_refl (s : Schemer) : Ext s s := ext_same (Nat.le_refl _) rfl

theorem ext_trans {s1 s2 s3 : Schemer} (h12 : Ext s1 s2) (h23 : Ext s2 s3) : Ext s1 s3 := by
  obtain ⟨c12, a1, v1, n1, r1⟩ := h12
  obtain ⟨c23, a2, v2, n2, r2⟩ := h23
  refine ⟨Nat.le_trans c12 c23, a1 ++ a2, by rw [v2, v1, List.map_append, List.append_assoc], ?_, ?_⟩
  · rw [List.map_append, List.nodup_append]
    -- the numbers of the first stretch are at most `s2.counter`, those of the second above it
    exact ⟨n1, n2, fun x hx y hy hxy => Nat.lt_irrefl _ (Nat.lt_of_le_of_lt (r1 x hx).2 (hxy ▸ (r2 y hy).1))⟩
  · intro k hk
    rw [List.map_append, List.mem_append] at hk
    rcases hk with hk | hk
    · exact ⟨(r1 k hk).1, Nat.le_trans (r1 k hk).2 c23⟩
    · exact ⟨Nat.lt_of_le_of_lt c12 (r2 k hk).1, (r2 k hk).2⟩

/-- the one step that does not extend the state just before it: `convert_to_schema` reserves the number `s.counter + 1` by
bumping the counter (`s1`), converts (`s2`: numbers above the bump), and only then defines the reserved name (`s3`) -/
theorem ext_define {s s1 s2 s3 : Schemer} {t : IR} (h : Ext s1 s2) (hc1 : s1.counter = s.counter + 1)
    (hv1 : s1.validators = s.validators) (hc3 : s3.counter = s2.counter)
    (hv3 : s3.validators = s2.validators ++ [(gen (s.counter + 1), t)]) : Ext s s3 := by
  obtain ⟨hc, added, hv, hn, hr⟩ := h
  rw [hc1] at hc hr
  rw [← hc3] at hc hr
  refine ⟨Nat.le_of_succ_le hc, added ++ [(s.counter + 1, t)], ?_, ?_, ?_⟩
  · rw [hv3, hv, hv1, List.map_append, List.append_assoc]
    rfl
  · rw [List.map_append, List.nodup_append]
    refine ⟨hn, List.pairwise_singleton _ _, fun x hx y hy hxy => ?_⟩
    rw [List.map_singleton, List.mem_singleton] at hy
    exact Nat.lt_irrefl _ (hy ▸ hxy ▸ (hr x hx).1)
  · intro k hk
    rw [List.map_append, List.mem_append, List.map_singleton, List.mem_singleton] at hk
    rcases hk with hk | hk
    · exact ⟨Nat.lt_of_succ_lt (hr k hk).1, (hr k hk).2⟩
    · exact hk ▸ ⟨Nat.lt_succ_self _, hc⟩

def Spec {α : Type} (m : TM α) : Prop := ∀ c s a c' s', m c s = some (a, c', s') → Ext s s'

theorem spec_pure {α : Type} (a : α) : Spec (pure a : TM α) := by
  intro c s a' c' s' h
  cases h
  exact ext_refl s

theorem spec_bind {α β : Type} {m : TM α} {f : α → TM β} (hm : Spec m) (hf : ∀ a, Spec (f a)) : Spec (m >>= f) := by
  intro c s b c' s' h
  rw [tm_bind_apply] at h
  cases e : m c s with
  | none => rw [e] at h; cases h
  | some r =>
    rw [e] at h
    exact ext_trans (hm c s r.1 r.2.1 r.2.2 e) (hf _ _ _ b c' s' h)

theorem spec_ite {α : Type} {p : Prop} [Decidable p] {a b : TM α} (ha : Spec a) (hb : Spec b) :
    Spec (if p then a else b) := by
  split
  · exact ha
  · exact hb

theorem spec_fail {α : Type} : Spec (TM.fail : TM α) := by intro c s a c' s' h; cases h
theorem spec_ctx : Spec TM.ctx := by
  intro c s a c' s' h
  cases h
  exact ext_refl s
theorem spec_get : Spec TM.get := by
  intro c s a c' s' h
  cases h
  exact ext_refl s
theorem spec_modify {f : Schemer → Schemer} (hf : ∀ s, Ext s (f s)) : Spec (TM.modify f) := by
  intro c s a c' s' h
  cases h
  exact hf s
theorem spec_liftSM {α : Type} (m : SM α) : Spec (TM.liftSM m) := by
  intro c s a c' s' h
  unfold TM.liftSM at h
  split at h
  · cases h
    exact ext_refl s
  · cases h
theorem spec_liftOpt {α : Type} (o : Option α) : Spec (TM.liftOpt o) := by
  cases o with
  | none => exact spec_fail
  | some a => exact spec_pure a

theorem spec_mapM {α β : Type} {f : α → TM β} : ∀ (xs : List α), (∀ x ∈ xs, Spec (f x)) → Spec (xs.mapM f) := by
  intro xs
  induction xs with
  | nil => intro _; rw [List.mapM_nil]; exact spec_pure _
  | cons x xs ih =>
    intro h
    rw [List.mapM_cons]
    exact spec_bind (h x List.mem_cons_self) (fun a => spec_bind (ih (fun y hy => h y (List.mem_cons_of_mem _ hy))) (fun b => spec_pure _))

theorem spec_filterMapM {α β : Type} {f : α → TM (Option β)} : ∀ (xs : List α), (∀ x ∈ xs, Spec (f x)) → Spec (xs.filterMapM f) := by
  intro xs
  induction xs with
  | nil => intro _; rw [List.filterMapM_nil]; exact spec_pure _
  | cons x xs ih =>
    intro h
    rw [List.filterMapM_cons]
    refine spec_bind (h x List.mem_cons_self) (fun a => ?_)
    have ih' := ih (fun y hy => h y (List.mem_cons_of_mem _ hy))
    cases a with
    | none => exact ih'
    | some b => exact spec_bind ih' (fun r => spec_pure _)

theorem toSchema_reserved (n : Nat) (ty : SemType) (c : Ctx) (s : Schemer) :
    toSchema n ty (some (gen (s.counter + 1))) c { s with counter := s.counter + 1 } = toSchema n ty none c s := by
  cases n <;> rfl

theorem spec_toSchema {n : Nat} (hsub : ∀ ty, Spec (toSchemaNoCache n ty)) (ty : SemType) : Spec (toSchema (n + 1) ty none) := by
  intro c s a c' s' h
  unfold toSchema at h
  dsimp only [bind, pure, TM.get, TM.modify] at h
  generalize List.find? (fun e => e.fst == ty) s.memo = fr at h
  rcases fr with _ | ⟨t0, nm, _ | schema0⟩
  · -- a new type: reserve the name, convert, define
    dsimp only at h
    split at h
    · rename_i e1
      cases h
      exact ext_define (hsub ty _ _ _ _ _ e1) rfl rfl rfl rfl
    · cases h
  · -- a type under conversion: a recursive reference
    cases h
    exact ext_same (Nat.le_succ _) rfl
  · -- memo hit with a schema
    cases h
    exact ext_same (Nat.le_succ _) rfl

/-- the object part and the list part in `toSchemaNoCache`: converted when the tag has a diagram, then the rest -/
theorem spec_part {α β : Type} (x : Sem.Sub Bdd) (f : Bdd → TM β) (g : List β → TM α) (hf : ∀ b, Spec (f b))
    (hg : ∀ l, Spec (g l)) :
    Spec (match x with
      | .some b => do let y ← f b; let l ← pure [y]; g l
      | _ => do let l ← pure []; g l) := by
  cases x with
  | some b => exact spec_bind (hf b) (fun _ => hg _)
  | _ => exact hg _

theorem spec_noCache {n : Nat} (hm : ∀ b, Spec (mappingToSchema n b)) (hl : ∀ b, Spec (listToSchema n b)) (ty : SemType) :
    Spec (toSchemaNoCache (n + 1) ty) := by
  unfold toSchemaNoCache
  exact spec_ite (spec_pure _) (spec_part _ _ _ hm (fun maps => spec_part _ _ _ hl (fun lists => spec_pure _)))

theorem spec_mapping {n : Nat} (ha : ∀ i, Spec (mappingAtomSchema n i)) (b : Bdd) : Spec (mappingToSchema (n + 1) b) := by
  unfold mappingToSchema
  refine spec_bind (spec_filterMapM _ (fun conj _ => ?_)) (fun _ => spec_pure _)
  refine spec_bind (spec_liftOpt _) (fun cb => spec_bind (spec_liftSM _) (fun e => spec_ite (spec_pure _) ?_))
  refine spec_bind (spec_mapM _ (fun a _ => ha _)) (fun pos => spec_bind (spec_mapM _ (fun a _ => ?_)) (fun neg => spec_pure _))
  exact spec_bind (ha _) (fun _ => spec_pure _)

theorem spec_list {n : Nat} (ha : ∀ i, Spec (listAtomSchema n i)) (b : Bdd) : Spec (listToSchema (n + 1) b) := by
  unfold listToSchema
  refine spec_bind (spec_filterMapM _ (fun conj _ => ?_)) (fun _ => spec_pure _)
  refine spec_bind (spec_liftOpt _) (fun cb => spec_bind (spec_liftSM _) (fun e => spec_ite (spec_pure _) ?_))
  refine spec_bind (spec_mapM _ (fun a _ => ha _)) (fun pos => spec_bind (spec_mapM _ (fun a _ => ?_)) (fun neg => spec_pure _))
  exact spec_bind (ha _) (fun _ => spec_pure _)

theorem spec_mappingAtom {n : Nat} (ht : ∀ ty, Spec (toSchema n ty none)) (i : Nat) : Spec (mappingAtomSchema (n + 1) i) := by
  unfold mappingAtomSchema
  refine spec_bind spec_ctx (fun c => ?_)
  rcases c.mappings[i]? with _ | _ | mt
  · exact spec_fail
  · exact spec_fail
  · refine spec_bind (spec_mapM _ (fun kv _ => spec_bind (ht _) (fun _ => spec_pure _))) (fun vs => ?_)
    cases mt.index with
    | some v => exact spec_bind (ht _) (fun _ => spec_bind (spec_pure _) (fun _ => spec_pure _))
    | none => exact spec_bind (spec_pure _) (fun _ => spec_pure _)

theorem spec_listAtom {n : Nat} (ht : ∀ ty, Spec (toSchema n ty none)) (i : Nat) : Spec (listAtomSchema (n + 1) i) := by
  unfold listAtomSchema
  refine spec_bind spec_ctx (fun c => ?_)
  rcases c.lists[i]? with _ | _ | lt
  · exact spec_fail
  · exact spec_fail
  · refine spec_ite (spec_ite (spec_pure _) (spec_bind (ht _) (fun _ => spec_pure _))) ?_
    refine spec_bind (spec_mapM _ (fun t _ => ht _)) (fun pre => ?_)
    exact spec_ite (spec_bind (spec_pure _) (fun _ => spec_pure _))
      (spec_bind (ht _) (fun _ => spec_bind (spec_pure _) (fun _ => spec_pure _)))

/-- every conversion function only ever ADDS helper definitions, under generated names whose numbers lie above the
counter it started from: by induction on the fuel, jointly for the six mutually recursive functions -/
theorem claims : ∀ n, (∀ ty, Spec (toSchema n ty none)) ∧ (∀ ty, Spec (toSchemaNoCache n ty)) ∧
    (∀ b, Spec (mappingToSchema n b)) ∧ (∀ i, Spec (mappingAtomSchema n i)) ∧ (∀ b, Spec (listToSchema n b)) ∧
    (∀ i, Spec (listAtomSchema n i)) := by
  intro n
  induction n with
  | zero =>
    refine ⟨fun ty => ?_, fun ty => ?_, fun b => ?_, fun i => ?_, fun b => ?_, fun i => ?_⟩
    · unfold toSchema; exact spec_fail
    · unfold toSchemaNoCache; exact spec_fail
    · unfold mappingToSchema; exact spec_fail
    · unfold mappingAtomSchema; exact spec_fail
    · unfold listToSchema; exact spec_fail
    · unfold listAtomSchema; exact spec_fail
  | succ n ih =>
    obtain ⟨h1, h2, h3, h4, h5, h6⟩ := ih
    exact ⟨spec_toSchema h2, spec_noCache h3 h5, spec_mapping h4, spec_mappingAtom h1, spec_list h6, spec_listAtom h1⟩

def names (l : List (String × IR)) : List String := l.map (·.1)

theorem ext_names {s s' : Schemer} (h : Ext s s') (hv : s.validators = []) :
    (names s'.validators).Nodup ∧ ∀ nm ∈ names s'.validators, ∃ k, s.counter < k ∧ k ≤ s'.counter ∧ nm = gen k := by
  obtain ⟨_, added, hv', hn, hr⟩ := h
  have hnames : names s'.validators = (added.map (·.1)).map gen := by
    rw [hv', hv, List.nil_append, names, List.map_map, List.map_map]
    rfl
  rw [hnames]
  refine ⟨List.Pairwise.map gen (fun _ _ hab e => hab (gen_inj e)) hn, fun nm hnm => ?_⟩
  obtain ⟨k, hk, e⟩ := List.mem_map.1 hnm
  exact ⟨k, (hr k hk).1, (hr k hk).2, e.symm⟩

/-- **C07 (helper names)**: the helper types a materialisation introduces for recursion are defined exactly once, under
generated names numbered above the counter the call started from and up to the counter it returns -/
theorem helper_names_defined_once (fuel : Nat) (ty : SemType) (counter : Nat) (c : Ctx) (head : IR) (tail : List (String × IR))
    (counter' : Nat) (c' : Ctx) (h : semtypeToRuntype fuel ty counter c = some ((head, tail, counter'), c')) :
    (names tail).Nodup ∧ counter ≤ counter' ∧ ∀ nm ∈ names tail, ∃ k, counter < k ∧ k ≤ counter' ∧ nm = gen k := by
  unfold semtypeToRuntype at h
  split at h
  · cases h
  · cases h
    exact ⟨List.nodup_nil, Nat.le_refl _, fun _ hnm => nomatch hnm⟩
  · rename_i c1 _
    -- the head is converted under the next generated name from the bumped counter: a conversion from `counter`
    have e := toSchema_reserved fuel ty c1 { counter := counter }
    dsimp only [gen] at e h
    rw [e] at h
    split at h
    · cases h
    · rename_i s e2
      cases h
      have hext := (claims fuel).1 ty _ _ _ _ _ e2
      obtain ⟨hnd, hgen⟩ := ext_names hext rfl
      -- the definitions handed over are among those made
      have hsub := List.Sublist.map (fun p : String × IR => p.1) (List.filter_sublist (l := s.validators)
        (p := fun v => s.recursive.contains v.1))
      exact ⟨hnd.sublist hsub, hext.1, fun nm hnm => hgen nm (hsub.subset hnm)⟩

/-- two materialisations one after the other (the second starts from the counter the first returned) introduce different
helper names -/
theorem helper_names_disjoint {fuel1 fuel2 : Nat} {ty1 ty2 : SemType} {k0 k1 k2 : Nat} {c0 c1 c1' c2 : Ctx} {h1 h2 : IR}
    {t1 t2 : List (String × IR)} (e1 : semtypeToRuntype fuel1 ty1 k0 c0 = some ((h1, t1, k1), c1))
    (e2 : semtypeToRuntype fuel2 ty2 k1 c1' = some ((h2, t2, k2), c2)) : ∀ nm, nm ∈ names t1 → nm ∈ names t2 → False := by
  intro nm m1 m2
  obtain ⟨a, _, ha, ea⟩ := (helper_names_defined_once _ _ _ _ _ _ _ _ e1).2.2 nm m1
  obtain ⟨b, hb, _, eb⟩ := (helper_names_defined_once _ _ _ _ _ _ _ _ e2).2.2 nm m2
  -- the same number would lie at most at `k1` and above it
  exact Nat.lt_irrefl _ (Nat.lt_of_le_of_lt ha (gen_inj (ea.symm.trans eb) ▸ hb))

end BeffVerif.C07N
