import BeffVerif.Props.C05Flat
/-!
# C05 — a closed object type against a UNION of object types: `check_mapping_empty` is exact

`Props/C05Flat.lean` follows one question `A extends B` from `is_subtype` down to `check_mapping_empty` with ONE negative atom.
This file proves the heart of the engine for ANY number of negative atoms (`check_closed`, `check_many`): for a positive
object type without index signature whose declared properties are inhabited scalar types, `check_mapping_empty` says "empty"
exactly when every exact value of the positive type is a structural value of ONE OF the negative types. That is `{ ok: boolean } extends { ok: true } | { ok: false }`, and discriminated unions on the
right in general: the values of the left type are covered by the members together, none of them alone.

The algorithm narrows: an exact value of `P` outside `B` differs from `B` at some key `k` in sight, where it lies in
`P[k] \ B[k]`; so `P \ B` is the union over the keys of `P` with `k` narrowed to that difference (`narrow_step`, with
`narrow` / `valueExact_narrow`), and each narrowed type has to be covered by the remaining atoms (`check_closed`, by recursion
on the list of atoms through `C05Flat.keys_loop`). Passing the UN-narrowed type on (the seeded change C01-r9) breaks exactly
`narrow_step`.

`check_closed` lets every negative atom carry an index signature: a key that neither `P` nor `B` declares is absent in every
exact value of the closed `P`, and absence is what an index signature allows, so the keys in sight still decide. Excluded are
an index signature on the POSITIVE atom (D84: `{[k]: number | string}` against `{[k]: number} | {[k]: string}`) and several
positive object atoms (D25).
-/
namespace BeffVerif.C05Union
open BeffVerif Sem C05 C05Flat Bdd

/-- the positive atom with key `k` narrowed to `d` (what `check_mapping_empty` hands to the remaining negative atoms) -/
def narrow (P : MappingAtomic) (k : String) (d : SemType) : MappingAtomic := { P with vs := vsPut P.vs k d }

theorem vsGet_vsPut (vs : List (String × SemType)) (k k' : String) (d : SemType) :
    vsGet (vsPut vs k d) k' = if k' = k then some d else vsGet vs k' := by
  unfold vsPut vsGet
  by_cases hany : vs.any (fun p => p.1 == k) = true
  · -- the replacement does not move a key, so the same entry is found; its value is `d` if its key is `k`
    have hq : ((fun p : String × SemType => p.1 == k') ∘ fun p => if p.1 == k then (k, d) else p) = fun p => p.1 == k' :=
      funext fun p => by
        show ((if p.1 == k then (k, d) else p).1 == k') = (p.1 == k')
        by_cases h : (p.1 == k) = true
        · rw [if_pos h, beq_iff_eq.1 h]
        · rw [if_neg h]
    rw [if_pos hany, List.find?_map, hq, Option.map_map]
    cases hf : vs.find? (fun p => p.1 == k') with
    | none =>
      by_cases e : k' = k
      · obtain ⟨p, hp, hpk⟩ := List.any_eq_true.1 hany
        exact absurd (e ▸ hpk) (List.find?_eq_none.1 hf p hp)
      · rw [if_neg e]; rfl
    | some p =>
      have hp : p.1 = k' := beq_iff_eq.1 (List.find?_some (p := fun p : String × SemType => p.1 == k') hf)
      show some (if p.1 == k then (k, d) else p).2 = _
      rw [hp]
      by_cases e : k' = k
      · rw [if_pos e, if_pos (beq_iff_eq.2 e)]
      · rw [if_neg e, if_neg (mt beq_iff_eq.1 e)]; rfl
  · have hno : vs.find? (fun p => p.1 == k) = none :=
      List.find?_eq_none.2 fun p hp hpk => hany (List.any_eq_true.2 ⟨p, hp, hpk⟩)
    rw [if_neg hany, List.find?_append]
    by_cases e : k' = k
    · rw [if_pos e, e, hno, List.find?_cons_of_pos (p := fun p : String × SemType => p.1 == k) (a := (k, d)) (beq_self_eq_true k)]
      rfl
    · rw [if_neg e, List.find?_cons_of_neg (p := fun p : String × SemType => p.1 == k') (a := (k, d)) (mt beq_iff_eq.1 (Ne.symm e)), List.find?_nil,
        Option.or_none]

theorem valueExact_narrow (P : MappingAtomic) (k k' : String) (d : SemType) :
    valueExact (narrow P k d) k' = if k' = k then d else valueExact P k' := by
  unfold valueExact narrow
  rw [vsGet_vsPut]
  by_cases hk : k' = k
  · rw [if_pos hk, if_pos hk]
  · rw [if_neg hk, if_neg hk]

theorem memExact_narrow (P : MappingAtomic) (k : String) (d : SemType) (o : ObjVal)
    (hd : ∀ v, hasScalar d v = true → hasScalar (valueExact P k) v = true) :
    memExact (narrow P k d) o ↔ memExact P o ∧ hasScalar d (o k) = true := by
  constructor
  · intro h
    have hk := h k
    rw [valueExact_narrow, if_pos rfl] at hk
    refine ⟨fun k' => ?_, hk⟩
    by_cases e : k' = k
    · exact e ▸ hd _ hk
    · have := h k'
      rwa [valueExact_narrow, if_neg e] at this
  · intro h k'
    rw [valueExact_narrow]
    by_cases e : k' = k
    · rw [if_pos e]; exact e ▸ h.2
    · rw [if_neg e]; exact h.1 k'

/-- every exact value of `P` is a structural value of one of `negs` -/
def Sub (P : MappingAtomic) (negs : List MappingAtomic) : Prop :=
  ∀ o, memExact P o → ∃ B ∈ negs, memOpen B o

/-- the per-key loop of `check_mapping_empty`, with whatever the remaining negative atoms are -/
theorem keys_fold_gen (m : Nat) (P B : MappingAtomic) (rest : List MappingAtomic) (c : Ctx)
    (hP : ∀ p ∈ P.vs, Good p.2 ∧ Inh p.2) (hPi : P.index = none)
    (hB : ∀ q ∈ B.vs, WF q.2) (hBi : B.index = none)
    (hemp : ∀ d, Good d → ∃ e, isEmpty m d c = some (e, c) ∧ (e = false ↔ Inh d))
    (hinner : ∀ k d, Good d → Inh d → ∃ r, checkMappingEmpty m (narrow P k d) rest c = some (r, c) ∧
      (r = true ↔ Sub (narrow P k d) rest)) (keys : List String) (ok : Bool) :
    ∃ r, keys.foldlM (fun (ok : Bool) (k : String) =>
        if !ok then (pure false : SM Bool) else do
          let d ← SM.lift (Sem.diff (valueExact P k) (valueOpen B k))
          if ← isEmpty m d then pure true
          else do
            let r ← checkMappingEmpty m { P with vs := vsPut P.vs k d } rest
            pure r) ok c = some (r, c) ∧
      (r = true ↔ ok = true ∧ ∀ k ∈ keys, ∀ d, Sem.diff (valueExact P k) (valueOpen B k) = some d → Inh d → Sub (narrow P k d) rest) :=
  keys_loop m P B rest c (fun k d => Sub (narrow P k d) rest) (good_valueExact P (fun p hp => (hP p hp).1) hPi)
    (wf_valueOpen B hB fun w hw => by rw [hBi] at hw; cases hw) hemp hinner keys ok

/-- the decomposition behind the loop: an exact value of `P` outside `B` differs from `B` at some key, where it lies in
`P[k] \ B[k]`; the keys out of sight (`hfree`) are those where no exact value of `P` can differ -/
theorem narrow_step (P B : MappingAtomic) (rest : List MappingAtomic) (keys : List String)
    (hP : ∀ k, Good (valueExact P k)) (hB : ∀ k, WF (valueOpen B k)) (hfree : ∀ k, k ∉ keys → Covered P B k) :
    (∀ k ∈ keys, ∀ d, Sem.diff (valueExact P k) (valueOpen B k) = some d → Inh d → Sub (narrow P k d) rest) ↔
      Sub P (B :: rest) := by
  have hdiff : ∀ k, ∃ d, Sem.diff (valueExact P k) (valueOpen B k) = some d ∧
      ∀ v, hasScalar d v = true ↔ hasScalar (valueExact P k) v = true ∧ hasScalar (valueOpen B k) v = false := fun k => by
    obtain ⟨d, hd, -, hdv⟩ := diff_good _ _ (hP k) (hB k)
    exact ⟨d, hd, fun v => by rw [hdv, Bool.and_eq_true, Bool.not_eq_true']⟩
  constructor
  · intro h o ho
    by_cases hin : memOpen B o
    · exact ⟨B, List.mem_cons_self, hin⟩
    · obtain ⟨k, hk⟩ := Classical.not_forall.1 hin
      have hkk : k ∈ keys := Classical.byContradiction fun hnk => hk (hfree k hnk (o k) (ho k))
      obtain ⟨d, hd, hdv⟩ := hdiff k
      have hod : hasScalar d (o k) = true := (hdv _).2 ⟨ho k, Bool.eq_false_iff.2 hk⟩
      obtain ⟨B', hB', hm⟩ := h k hkk d hd ⟨o k, hod⟩ o
        ((memExact_narrow P k d o fun v hv => ((hdv v).1 hv).1).2 ⟨ho, hod⟩)
      exact ⟨B', List.mem_cons_of_mem _ hB', hm⟩
  · intro h k _ d hd _ o ho
    obtain ⟨d0, hd0, hdv⟩ := hdiff k
    cases hd0.symm.trans hd
    obtain ⟨hoP, hok⟩ := (memExact_narrow P k d o fun v hv => ((hdv v).1 hv).1).1 ho
    obtain ⟨B', hB', hm⟩ := h o hoP
    rcases List.mem_cons.1 hB' with e | hr
    · cases (e ▸ hm k).symm.trans ((hdv _).1 hok).2
    · exact ⟨B', hr, hm⟩

theorem sem_step (P B : MappingAtomic) (rest : List MappingAtomic)
    (hP : ∀ p ∈ P.vs, Good p.2 ∧ Inh p.2) (hPi : P.index = none) (hB : ∀ q ∈ B.vs, WF q.2) (hBi : B.index = none)
    (keys : List String) (hkeys : ∀ k, k ∈ B.vs.map (·.1) → k ∈ keys) :
    (∀ k ∈ keys, ∀ d, Sem.diff (valueExact P k) (valueOpen B k) = some d → Inh d → Sub (narrow P k d) rest) ↔ Sub P (B :: rest) := by
  refine narrow_step P B rest keys (good_valueExact P (fun p hp => (hP p hp).1) hPi)
    (wf_valueOpen B hB fun w hw => by rw [hBi] at hw; cases hw) fun k hk v _ => ?_
  unfold valueOpen
  rw [vsGet_none fun h => hk (hkeys k h), hBi]
  exact hasScalar_unknown v

/-- **`check_mapping_empty` is exact on a closed object type against any number of object types**, with or without index
signatures: for every fuel ≥ 2 + the number of negative atoms it answers, leaves the context alone, and says "empty" exactly
when every exact value of the positive type is a structural value of one of the negative types. -/
theorem check_closed : ∀ (negs : List MappingAtomic) (n : Nat) (P : MappingAtomic) (c : Ctx),
    (∀ p ∈ P.vs, Good p.2 ∧ Inh p.2) → P.index = none →
    (∀ B ∈ negs, (∀ q ∈ B.vs, WF q.2) ∧ ∀ w, B.index = some w → WF w) →
    ∃ r, checkMappingEmpty (n + negs.length + 2) P negs c = some (r, c) ∧ (r = true ↔ Sub P negs)
  | [], n, P, c, hP, hPi, _ => by
    refine ⟨false, check_nil n P c hP, nofun, fun h => ?_⟩
    obtain ⟨v, hv⟩ := inh_valueExact P (fun p hp => (hP p hp).2) hPi ""
    obtain ⟨o, ho, -⟩ := exists_memExact P (fun p hp => (hP p hp).2) hPi "" v hv
    obtain ⟨B, hB, _⟩ := h o ho
    cases hB
  | B :: rest, n, P, c, hP, hPi, hN => by
    have hBN := hN B List.mem_cons_self
    have hPg := good_valueExact P (fun p hp => (hP p hp).1) hPi
    have hBw := wf_valueOpen B hBN.1 hBN.2
    obtain ⟨r, hr, hiff⟩ := keys_loop (n + rest.length + 2) P B rest c (fun k d => Sub (narrow P k d) rest) hPg hBw
      (fun d => isEmpty_good (n + rest.length + 1) d c)
      (fun k d hdg hdi => check_closed rest n (narrow P k d) c
        (fun p hp => (mem_vsPut hp).elim (hP p) fun e => e ▸ ⟨hdg, hdi⟩) hPi fun B' h => hN B' (List.mem_cons_of_mem _ h))
      (keysOf P B) true
    refine ⟨r, check_cons (n + rest.length) P B rest c r hP hPi hBN.2 hr, hiff.trans ((and_iff_right rfl).trans ?_)⟩
    exact narrow_step P B rest (keysOf P B) hPg hBw fun k hk =>
      covered_undeclared P B hPi k (fun h => hk ((mem_keysOf P B k).2 (Or.inl h)))
        fun h => hk ((mem_keysOf P B k).2 (Or.inr h))

/-- `check_closed` without index signatures on the right, the fuel written as `flat_object_vs_union_iff_inclusion` meets it -/
theorem check_many : ∀ (negs : List MappingAtomic) (n : Nat) (P : MappingAtomic) (c : Ctx),
    (∀ p ∈ P.vs, Good p.2 ∧ Inh p.2) → P.index = none → (∀ B ∈ negs, (∀ q ∈ B.vs, WF q.2) ∧ B.index = none) →
    ∃ r, checkMappingEmpty (n + 2 + negs.length) P negs c = some (r, c) ∧ (r = true ↔ Sub P negs) :=
  fun negs n P c hP hPi hN => Nat.add_right_comm n negs.length 2 ▸
    check_closed negs n P c hP hPi fun B hB => ⟨(hN B hB).1, fun w hw => by rw [(hN B hB).2] at hw; cases hw⟩

/-- `{ ok: boolean }`, `{ ok: true }`, `{ ok: false }` -/
def exP : MappingAtomic := ⟨[("ok", { never with bool := .all })], none⟩
def exT : MappingAtomic := ⟨[("ok", { never with bool := .some true })], none⟩
def exF : MappingAtomic := ⟨[("ok", { never with bool := .some false })], none⟩
/-- covered by the two members together, by neither alone -/
example : ((checkMappingEmpty 4 exP [exT, exF] {}).map (·.1)) = some true := by decide +kernel
example : ((checkMappingEmpty 3 exP [exT] {}).map (·.1)) = some false := by decide +kernel
example : ((checkMappingEmpty 3 exP [exF] {}).map (·.1)) = some false := by decide +kernel

end BeffVerif.C05Union
