import BeffVerif.Model.RTPred
import BeffVerif.Lemmas.RT
/-!
# C12 — a rejected value always gets at least one error

`report_nonempty`: for every environment, mode, fuel, runtype, path and value — if `validate` rejects the value and
`reportDecodeError` returns, the error list is not empty — provided no `allOf []` occurs in the runtype or in the
environment (hypothesis `NoEmptyIntersection`; the compiler never emits it, and `C12.empty_intersection_reports_nothing`
shows the statement is false without it).

The induction on the fuel carries a disjunction: the value is rejected OR it is not `typeof "object"`. The second is what
makes `allOf` on a primitive work: there the validator answers false without asking the members, each of which may accept
the value.
-/
namespace BeffVerif.C12
open BeffVerif RT

/-- no `allOf []` anywhere in the tree -/
def Clean (rt : RT) : Prop := anyNode isEmptyAllOf rt = false

theorem anyL_false {p : RT → Bool} : ∀ {ts : List RT}, anyL p ts = false → ∀ t ∈ ts, anyNode p t = false := by
  intro ts
  induction ts with
  | nil => intro _ t ht; cases ht
  | cons x xs ih =>
    intro h t ht
    simp only [anyL, Bool.or_eq_false_iff] at h
    rcases List.mem_cons.1 ht with e | ht'
    · subst e; exact h.1
    · exact ih h.2 t ht'

theorem anySL_false {p : RT → Bool} : ∀ {ts : List (String × RT)}, anySL p ts = false → ∀ t ∈ ts, anyNode p t.2 = false := by
  intro ts
  induction ts with
  | nil => intro _ t ht; cases ht
  | cons x xs ih =>
    intro h t ht
    obtain ⟨k, v⟩ := x
    simp only [anySL, Bool.or_eq_false_iff] at h
    rcases List.mem_cons.1 ht with e | ht'
    · subst e; exact h.1
    · exact ih h.2 t ht'

theorem anyPL_false {p : RT → Bool} : ∀ {ts : List (RT × RT)}, anyPL p ts = false →
    ∀ t ∈ ts, anyNode p t.1 = false ∧ anyNode p t.2 = false := by
  intro ts
  induction ts with
  | nil => intro _ t ht; cases ht
  | cons x xs ih =>
    intro h t ht
    obtain ⟨k, v⟩ := x
    simp only [anyPL, Bool.or_eq_false_iff] at h
    rcases List.mem_cons.1 ht with e | ht'
    · subst e; exact ⟨h.1.1, h.1.2⟩
    · exact ih h.2 t ht'

theorem _root_.BeffVerif.RT.Child.anyNode_false {p : RT → Bool} {env : Env} {rt t : RT}
    (henv : ∀ name t, env.lookup name = some t → anyNode p t = false) (hc : Child env rt t)
    (h : anyNode p rt = false) : anyNode p t = false := by
  -- `anyNode p rt` unfolds to the disjunction of `p rt` and the sub-terms' `anyNode`s, nested to the left
  have l {a b : Bool} (h : (a || b) = false) : a = false := (Bool.or_eq_false_iff.1 h).1
  have r {a b : Bool} (h : (a || b) = false) : b = false := (Bool.or_eq_false_iff.1 h).2
  cases hc with
  | ref hl => exact henv _ _ hl
  | tuplePre ht => exact anyL_false (r (l h)) _ ht
  | tupleRest => exact r h
  | allOf ht => exact anyL_false (r h) _ ht
  | anyOf ht => exact anyL_false (r h) _ ht
  | array => exact r h
  | mapKey => exact r (l h)
  | mapVal => exact r h
  | set => exact r h
  | disc hp => exact anySL_false (r (l h)) _ hp
  | optional => exact r h
  | prop hp => exact anySL_false (r (l h)) _ hp
  | ixKey hp => exact (anyPL_false (r h) _ hp).1
  | ixVal hp => exact (anyPL_false (r h) _ hp).2
  | described => exact r h

theorem buildError_ne (path : List String) (msg : String) (v : JsVal) : buildError path msg v ≠ [] := by
  simp [buildError]

theorem buildUnionError_ne (path : List String) (es : List DErr) (v : JsVal) : buildUnionError path es v ≠ [] := by
  unfold buildUnionError
  simp only
  split <;> simp

theorem mem_zip_of_le {α β : Type} : ∀ (l : List α) (l2 : List β) (x : α), x ∈ l → l.length ≤ l2.length →
    ∃ i, (x, i) ∈ l.zip l2 := by
  intro l
  induction l with
  | nil => intro l2 x h; cases h
  | cons a as ih =>
    intro l2 x h hl
    cases l2 with
    | nil => simp at hl
    | cons b bs =>
      rcases List.mem_cons.1 h with e | h'
      · subst e; exact ⟨b, by simp⟩
      · obtain ⟨i, hi⟩ := ih bs x h' (by simpa using hl)
        exact ⟨i, by simp [hi]⟩

theorem flatMap_ne {α : Type} (f : α → List DErr) (l : List α) (hl : l ≠ []) (hf : ∀ x, f x ≠ []) : l.flatMap f ≠ [] := by
  cases l with
  | nil => exact absurd rfl hl
  | cons x xs =>
    simp only [List.flatMap_cons, ne_eq, List.append_eq_nil_iff, not_and]
    intro h; exact absurd h (hf x)

theorem notObj_isObjectLike (v : JsVal) (h : v.typeOf ≠ "object") : v.isObjectLike = false := by
  unfold JsVal.isObjectLike
  have : (v.typeOf == "object") = false := by simpa using h
  simp [this]

theorem reportIndexed_ne {vf : RT → JsVal → Res Bool} {rf : RT → List String → JsVal → Res (List DErr)} {path : List String}
    {input : JsVal} {k : String} {p : RT × RT}
    (hv : (vf p.1 (.str k)).andThen (vf p.2 (input.getProp k)) = .ok false)
    (h1 : vf p.1 (.str k) = .ok false → (rf p.1 (path ++ [k]) (.str k)).Holds (· ≠ []) fun _ => True)
    (h2 : vf p.2 (input.getProp k) = .ok false → (rf p.2 (path ++ [k]) (input.getProp k)).Holds (· ≠ []) fun _ => True) :
    (reportIndexed vf rf path input k p).Holds (· ≠ []) fun _ => True := by
  unfold reportIndexed
  rcases Res.andThen_eq_false.1 hv with e1 | ⟨e1, e2⟩
  · rw [e1]
    cases vf p.2 (input.getProp k) with
    | ok valueOk =>
      show (seqErrs (rf p.1 (path ++ [k]) (.str k)) fun a =>
        seqErrs (if (!valueOk) = true then rf p.2 (path ++ [k]) (input.getProp k) else .ok []) fun b => .ok (a ++ b)).Holds _ _
      exact (h1 e1).seqErrs fun _ ha => Res.Holds.seqErrs (Res.holds_trivial _) fun b _ => List.append_ne_nil_of_left_ne_nil ha b
    | _ => trivial
  · rw [e1, e2]
    show (seqErrs (rf p.2 (path ++ [k]) (input.getProp k)) fun b => .ok ([] ++ b)).Holds _ _
    exact (h2 e2).seqErrs fun _ hb => List.append_ne_nil_of_right_ne_nil [] hb

theorem reportStep_nonempty (env : Env) (strict : Bool) {vf : RT → JsVal → Res Bool}
    {rf : RT → List String → JsVal → Res (List DErr)} (rt : RT) (path : List String) (v : JsVal)
    (hrf : ∀ t, Child env rt t → ∀ p x, x.typeOf ≠ "object" ∨ vf t x = .ok false → (rf t p x).Holds (· ≠ []) fun _ => True)
    (hne : rt ≠ .allOf []) (h : v.typeOf ≠ "object" ∨ validateStep env strict vf rt v = .ok false) :
    (reportStep env strict vf rf rt path v).Holds (· ≠ []) fun _ => True := by
  have item : ∀ {t}, Child env rt t → ∀ (seg : String) {x : JsVal}, vf t x = .ok false →
      (reportItem vf rf path t seg x).Holds (· ≠ []) fun _ => True :=
    fun ht seg x hf => reportItem_of_false (rf := rf) (path := path) (seg := seg) hf ▸ hrf _ ht _ x (.inr hf)
  cases rt with
  | tuple pre rest =>
    cases v with
    | arr items =>
      rcases Res.andThen_eq_false.1 (h.resolve_left fun hn => hn rfl) with h1 | ⟨_, h2⟩
      · obtain ⟨p, hp, hf⟩ := allShort_false _ _ h1
        refine Res.Holds.seqErrs (holds_concatRes_ne hp (item (.tuplePre (List.of_mem_zip hp).1) _ hf)) fun e1 he1 => ?_
        cases rest with
        | none => exact List.append_ne_nil_of_left_ne_nil he1 _
        | some r => exact (Res.holds_trivial _).seqErrs fun e2 _ => List.append_ne_nil_of_left_ne_nil he1 e2
      · refine (Res.holds_trivial _).seqErrs fun e1 _ => ?_
        cases rest with
        | none =>
          have hlen : pre.length < items.length := by simpa using h2
          refine List.append_ne_nil_of_right_ne_nil e1 (flatMap_ne _ _ (fun hnil => ?_) fun _ => buildError_ne _ _ _)
          have := List.drop_eq_nil_iff.1 hnil
          rw [List.length_zip, List.length_range, Nat.min_self] at this
          omega
        | some r =>
          obtain ⟨x, hx, hf⟩ := allShort_false _ _ h2
          obtain ⟨i, hi⟩ := mem_zip_of_le (items.drop pre.length) ((List.range items.length).drop pre.length) x hx (by simp)
          have hdz : (items.zip (List.range items.length)).drop pre.length =
              (items.drop pre.length).zip ((List.range items.length).drop pre.length) := by
            simp only [List.zip, List.drop_zipWith]
          exact Res.Holds.seqErrs (holds_concatRes_ne (hdz ▸ hi) (item .tupleRest _ hf))
            fun e2 he2 => List.append_ne_nil_of_right_ne_nil e1 he2
    | _ => exact buildError_ne _ _ _
  | allOf ts =>
    have hmem : ∃ t ∈ ts, v.typeOf ≠ "object" ∨ vf t v = .ok false := by
      rcases h with hn | hv
      · cases ts with
        | nil => exact absurd rfl hne
        | cons t _ => exact ⟨t, List.mem_cons_self, .inl hn⟩
      · obtain ⟨t, ht, hf⟩ := allShort_false _ _ hv
        refine ⟨t, ht, ?_⟩
        by_cases ho : (v.typeOf == "object") = true
        · exact .inr (eq_of_ite_pos ho hf)
        · exact .inl fun e => ho (by simpa using e)
    obtain ⟨t, ht, hd⟩ := hmem
    exact holds_concatRes_ne ht (hrf t (.allOf ht) path v hd)
  | anyOf ts =>
    dsimp only [reportStep]
    cases mapRes (fun t => rf t [] v) ts with
    | ok _ => exact buildUnionError_ne _ _ _
    | _ => trivial
  | array t =>
    cases v with
    | arr items =>
      obtain ⟨x, hx, hf⟩ := allShort_false _ _ (h.resolve_left fun hn => hn rfl)
      obtain ⟨i, hi⟩ := mem_zip_of_le items (List.range items.length) x hx (Nat.le_of_eq List.length_range.symm)
      exact holds_concatRes_ne hi (item .array _ hf)
    | _ => exact buildError_ne _ _ _
  | map kt vt =>
    cases v with
    | map es =>
      obtain ⟨x, hx, hf⟩ := allShort_false _ _ (h.resolve_left fun hn => hn rfl)
      refine holds_concatRes_ne hx ?_
      rcases Res.andThen_eq_false.1 hf with h1 | ⟨_, h2⟩
      · exact Res.Holds.seqErrs (item .mapKey _ h1) fun a ha =>
          (Res.holds_trivial _).seqErrs fun b _ => List.append_ne_nil_of_left_ne_nil ha b
      · exact (Res.holds_trivial _).seqErrs fun a _ =>
          Res.Holds.seqErrs (item .mapVal _ h2) fun b hb => List.append_ne_nil_of_right_ne_nil a hb
    | _ => exact buildError_ne _ _ _
  | set t =>
    cases v with
    | set xs =>
      obtain ⟨x, hx, hf⟩ := allShort_false _ _ (h.resolve_left fun hn => hn rfl)
      exact holds_concatRes_ne hx (item .set _ hf)
    | _ => exact buildError_ne _ _ _
  | disc ss key mapping sm =>
    refine Res.Holds.ite (fun _ => buildError_ne _ _ _) fun ho => Res.Holds.ite (fun _ => buildError_ne _ _ _) fun hd => ?_
    cases hm : lookupMapping mapping (v.getProp key) with
    | none => exact buildError_ne _ _ _
    | some t =>
      obtain ⟨p, hp, e⟩ := lookupMapping_mem hm
      refine e ▸ hrf p.2 (.disc hp) path v (h.imp_right fun hv => ?_)
      have hv := eq_of_ite_neg hd (eq_of_ite_neg ho hv)
      rw [hm] at hv
      exact e ▸ hv
  | optional t =>
    refine hrf t .optional path v (h.imp_right fun hv => ?_)
    by_cases hn : v.isNullish = true
    · cases eq_of_ite_pos hn hv
    · exact eq_of_ite_neg hn hv
  | object props indexed =>
    refine Res.Holds.ite (fun _ => buildError_ne _ _ _) fun ho => ?_
    have hv := eq_of_ite_neg ho (h.resolve_left fun hn => ho (by rw [notObj_isObjectLike v hn]; rfl))
    rcases Res.andThen_eq_false.1 hv with h1 | ⟨_, h2⟩
    · obtain ⟨p, hp, hf⟩ := allShort_false _ _ h1
      refine Res.Holds.seqErrs (holds_concatRes_ne hp (item (.prop hp) _ hf)) fun acc hacc => ?_
      refine Res.Holds.ite (fun _ => (Res.holds_trivial _).seqErrs fun e2 _ => List.append_ne_nil_of_left_ne_nil hacc e2) fun _ => ?_
      refine Res.Holds.ite (fun hst => flatMap_ne _ _ (fun hnil => ?_) fun _ => buildError_ne _ _ _) fun _ => hacc
      rw [hnil] at hst
      simp at hst
    · refine (Res.holds_trivial _).seqErrs fun acc _ => ?_
      refine Res.Holds.ite (fun hix => ?_) fun hix => ?_
      · -- some extra key is admitted by no index signature, in particular not by the first
        obtain ⟨kk, hkk, hf⟩ := allShort_false _ _ (eq_of_ite_pos hix h2)
        cases indexed with
        | nil => cases hix
        | cons p0 _ =>
          have hp0 := (anyShort_false_iff _ _).1 hf p0 List.mem_cons_self
          exact Res.Holds.seqErrs (holds_concatRes_ne hkk (holds_concatRes_ne List.mem_cons_self
            (reportIndexed_ne hp0 (fun e => hrf _ (.ixKey List.mem_cons_self) _ _ (.inr e))
              (fun e => hrf _ (.ixVal List.mem_cons_self) _ _ (.inr e))))) fun e2 he2 => List.append_ne_nil_of_right_ne_nil acc he2
      · -- no index signature: only the strict flag rejects, so there is an extra key
        have h3 := eq_of_ite_neg hix h2
        by_cases hs : strict = true
        · have hpos := Nat.pos_of_ne_zero (ne_of_beq_false (Res.ok.inj (eq_of_ite_pos hs h3)))
          refine Res.Holds.ite (fun _ => flatMap_ne _ _ (List.ne_nil_of_length_pos hpos) fun _ => buildError_ne _ _ _)
            fun hn => absurd ?_ hn
          rw [hs, Bool.true_and]
          exact decide_eq_true hpos
        · cases eq_of_ite_neg hs h3
  | ref name =>
    dsimp only [reportStep]
    cases hl : env.lookup name with
    | none => trivial
    | some t =>
      refine hrf t (.ref hl) path v (h.imp_right fun hv => ?_)
      dsimp only [validateStep] at hv
      rwa [hl] at hv
  | described d t => exact hrf t .described path v h
  | _ => exact buildError_ne _ _ _

theorem report_ne (env : Env) (strict : Bool) (henv : ∀ name t, env.lookup name = some t → Clean t) :
    ∀ n rt path v, Clean rt → v.typeOf ≠ "object" ∨ validate env strict n rt v = .ok false →
      (report env strict n rt path v).Holds (· ≠ []) fun _ => True
  | 0, _, _, _, _, _ => trivial
  | n+1, rt, path, v, hc, h => by
    rw [report_succ]
    rw [validate_succ] at h
    refine reportStep_nonempty env strict rt path v
      (fun t ht p x => report_ne env strict henv n t p x (ht.anyNode_false henv hc)) (fun e => ?_) h
    subst e; cases hc

theorem clean_of_noEmptyIntersection (env : Env) (rt : RT) (h : noEmptyIntersection env rt = true) :
    Clean rt ∧ ∀ name t, env.lookup name = some t → Clean t := by
  obtain ⟨hrt, henv⟩ := Bool.or_eq_false_iff.1 ((Bool.not_eq_true' _).mp h)
  exact ⟨hrt, fun name t hl => Bool.eq_false_iff.2 (List.any_eq_false.1 henv (name, t) (lookup_mem hl))⟩

/-- **A rejected value always gets at least one error.** The hypothesis `NoEmptyIntersection` is the one the driver
evaluates per request. -/
theorem report_nonempty (env : Env) (strict : Bool) (n : Nat) (rt : RT) (path : List String) (v : JsVal) (errs : List DErr)
    (hyp : noEmptyIntersection env rt = true)
    (hv : validate env strict n rt v = .ok false) (hr : report env strict n rt path v = .ok errs) : errs ≠ [] := by
  obtain ⟨hc, henv⟩ := clean_of_noEmptyIntersection env rt hyp
  exact (report_ne env strict henv n rt path v hc (.inr hv)).of_ok hr

end BeffVerif.C12
