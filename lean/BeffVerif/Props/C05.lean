import BeffVerif.Model.SemType
import BeffVerif.Model.SubSpec
import BeffVerif.Model.TsCore
/-!
# C05 — assignability decisions coincide with inclusion of value sets

`Model/SemType.lean` is a port of the decision procedure (type vectors, literal sets, mapping and list emptiness with
their memo tables, Runtype → SemType); `Model/SubSpec.lean` is the set-theoretic meaning (exact values of the left type,
structural reading of the right type).

The file opens with what every file on the engine uses: running a computation in `SM` (`sm_step`, `bind_some`), the
loops `foldlM_and` / `foldlM_or`, the units of `inter` / `union`.

Proved here, for every input:
* the literal-set algebra is exact (`litInter_has`, `litUnion_has`, `litDiff_has`) and keeps the normal form;
* the per-tag combinations are exact for every tag (`subInter_has`, `subUnion_has`, `subDiff_has`); on types without
  object / list part the difference is exact for every scalar value (`diff_scalarOnly`) and the decision is COMPLETE AND SOUND:
  `isSubtype a b = true ↔ every scalar value of a is a value of b` (`scalar_subtype_iff_inclusion`), for every fuel > 0;
* `is_subtype` is emptiness of the difference by definition.
Not proved (decided by the correspondence with the real engine + the enumeration oracle of `SubSpec`): correctness of
mapping and list emptiness beyond the fragments of `Props/C05Flat`, `C05Union`, `C05Tuple`, `C05ListUnion`, termination
bounds (fuel adequacy), the conversion from Runtype.

The statement at full strength is FALSE of the current code for unions with two or more object members on the left
(D25): a positive object atom is read exactly, the same atom negated in another clause is read structurally.
`object_union_on_the_left_is_unsound` is the concrete witness.
-/
namespace BeffVerif.C05
open BeffVerif Sem

theorem sm_bind {α β : Type} (m : SM α) (f : α → SM β) (c : Ctx) :
    (m >>= f) c = match m c with | some (a, c') => f a c' | none => none := rfl
theorem sm_bind_of {α β : Type} {m : SM α} {f : α → SM β} {c c' : Ctx} {a : α} (h : m c = some (a, c')) :
    (m >>= f) c = f a c' := by rw [sm_bind, h]
theorem sm_step {α β : Type} {m : SM α} {f : α → SM β} {c c' : Ctx} {a : α} {x : Option (β × Ctx)}
    (h : m c = some (a, c')) (hk : f a c' = x) : (m >>= f) c = x := (sm_bind_of h).trans hk
theorem sm_lift_bind {α β : Type} (a : α) (f : α → SM β) (c : Ctx) : (SM.lift (some a) >>= f) c = f a c := rfl
theorem bind_some {α β : Type} {m : SM α} {f : α → SM β} {c : Ctx} {r : β} {c' : Ctx}
    (h : (m >>= f) c = some (r, c')) : ∃ a c1, m c = some (a, c1) ∧ f a c1 = some (r, c') := by
  rw [sm_bind] at h
  split at h
  · exact ⟨_, _, by assumption, h⟩
  · cases h
theorem pure_some {α : Type} {a : α} {c : Ctx} {r : α} {c' : Ctx} (h : (pure a : SM α) c = some (r, c')) : r = a := by
  cases h
  rfl

theorem getMapping_of {i : Nat} {A : MappingAtomic} {c : Ctx} (h : c.mappings[i]? = some (some A)) :
    getMapping i c = some (A, c) := by
  unfold getMapping; rw [h]

theorem getList_of {i : Nat} {A : ListAtomic} {c : Ctx} (h : c.lists[i]? = some (some A)) :
    getList i c = some (A, c) := by
  unfold getList; rw [h]

theorem mapM_single {α β : Type} {f : α → SM β} {x : α} {c c' : Ctx} {y : β} (h : f x c = some (y, c')) :
    [x].mapM f c = some ([y], c') := by
  unfold List.mapM List.mapM.loop
  rw [sm_bind_of h]
  rfl

theorem mapM_two {α β : Type} {f : α → SM β} {x y : α} {c : Ctx} {bx byy : β}
    (hx : f x c = some (bx, c)) (hy : f y c = some (byy, c)) : [x, y].mapM f c = some ([bx, byy], c) := by
  unfold List.mapM List.mapM.loop
  rw [sm_bind_of hx]
  unfold List.mapM.loop
  rw [sm_bind_of hy]
  rfl

theorem foldlM_and {α : Type} (g : α → SM Bool) (c : Ctx) (Q : α → Prop) (xs : List α)
    (h : ∀ x ∈ xs, ∃ r, g x c = some (r, c) ∧ (r = true ↔ Q x)) (ok : Bool) :
    ∃ r, xs.foldlM (fun (ok : Bool) x => if !ok then (pure false : SM Bool) else g x) ok c = some (r, c) ∧
      (r = true ↔ ok = true ∧ ∀ x ∈ xs, Q x) := by
  induction xs generalizing ok with
  | nil => exact ⟨ok, rfl, fun h => ⟨h, nofun⟩, fun h => h.1⟩
  | cons x xs ih =>
    have ih := ih fun y hy => h y (List.mem_cons_of_mem _ hy)
    rw [List.foldlM_cons, List.forall_mem_cons]
    cases ok with
    | false =>
      obtain ⟨r, hr, hiff⟩ := ih false
      exact ⟨r, hr, fun h => (nomatch (hiff.1 h).1), fun h => (nomatch h.1)⟩
    | true =>
      obtain ⟨b, hb, hQ⟩ := h x List.mem_cons_self
      obtain ⟨r, hr, hiff⟩ := ih b
      exact ⟨r, sm_step hb hr, by rw [hiff, hQ]; exact ⟨fun h => ⟨rfl, h⟩, fun h => h.2⟩⟩

theorem foldlM_or {α : Type} (g : α → SM Bool) (c : Ctx) (Q : α → Prop) (xs : List α)
    (h : ∀ x ∈ xs, ∃ r, g x c = some (r, c) ∧ (r = true ↔ Q x)) (acc : Bool) :
    ∃ r, xs.foldlM (fun (acc : Bool) x => if acc then (pure true : SM Bool) else g x) acc c = some (r, c) ∧
      (r = true ↔ acc = true ∨ ∃ x ∈ xs, Q x) := by
  induction xs generalizing acc with
  | nil => exact ⟨acc, rfl, Or.inl, fun h => h.elim id nofun⟩
  | cons x xs ih =>
    have ih := ih fun y hy => h y (List.mem_cons_of_mem _ hy)
    rw [List.foldlM_cons]
    cases acc with
    | true =>
      obtain ⟨r, hr, hiff⟩ := ih true
      exact ⟨r, hr, fun _ => Or.inl rfl, fun _ => hiff.2 (Or.inl rfl)⟩
    | false =>
      obtain ⟨b, hb, hQ⟩ := h x List.mem_cons_self
      obtain ⟨r, hr, hiff⟩ := ih b
      refine ⟨r, sm_step hb hr, ?_⟩
      rw [hiff, hQ]
      simp only [Bool.false_eq_true, false_or, List.mem_cons, or_and_right, exists_or, exists_eq_left]

theorem subInter_all {α : Type} (f : α → α → Option (Sem.Sub α)) (x : Sem.Sub α) : subInter f .all x = some x := by
  cases x <;> rfl
theorem subInter_all_right {α : Type} (f : α → α → Option (Sem.Sub α)) (x : Sem.Sub α) : subInter f x .all = some x := by
  cases x <;> rfl
theorem subUnion_none {α : Type} (f : α → α → Option (Sem.Sub α)) (x : Sem.Sub α) : subUnion f .none x = some x := by
  cases x <;> rfl
theorem subUnion_none_right {α : Type} (f : α → α → Option (Sem.Sub α)) (x : Sem.Sub α) : subUnion f x .none = some x := by
  cases x <;> rfl

theorem inter_unknown (x : SemType) : inter unknown x = some x := by
  unfold inter unknown
  simp only [subInter_all, Option.bind_eq_bind, Option.bind_some, Bool.true_and]
theorem inter_unknown_right (x : SemType) : inter x unknown = some x := by
  unfold inter unknown
  simp only [subInter_all_right, Option.bind_eq_bind, Option.bind_some, Bool.and_true]
theorem union_never (x : SemType) : Sem.union never x = some x := by
  unfold Sem.union never
  simp only [subUnion_none, Option.bind_eq_bind, Option.bind_some, Bool.false_or]
theorem union_never_right (x : SemType) : Sem.union x never = some x := by
  unfold Sem.union never
  simp only [subUnion_none_right, Option.bind_eq_bind, Option.bind_some, Bool.or_false]

def LitSet.has (x : LitSet) (s : String) : Bool := if x.allowed then x.values.contains s else !x.values.contains s

def subLitHas : Sem.Sub LitSet → String → Bool
  | .none, _ => false
  | .all, _ => true
  | .some x, s => LitSet.has x s

theorem mkLit_has (allowed : Bool) (vs : List String) (s : String) :
    subLitHas (mkLit allowed vs) s = LitSet.has ⟨allowed, vs⟩ s := by
  cases vs with
  | nil => cases allowed <;> rfl
  | cons _ _ => rfl

theorem contains_filter (p : String → Bool) (a : List String) (s : String) :
    (a.filter p).contains s = (a.contains s && p s) := by
  rw [Bool.eq_iff_iff, Bool.and_eq_true, List.contains_iff_mem, List.contains_iff_mem, List.mem_filter]

@[simp] theorem contains_lsInter (a b : List String) (s : String) :
    (lsInter a b).contains s = (a.contains s && b.contains s) := contains_filter _ a s

@[simp] theorem contains_lsUnion (a b : List String) (s : String) :
    (lsUnion a b).contains s = (a.contains s || b.contains s) := by
  unfold lsUnion
  rw [List.contains_append, contains_filter]
  cases a.contains s <;> cases b.contains s <;> rfl

@[simp] theorem contains_lsDiff (a b : List String) (s : String) :
    (lsDiff a b).contains s = (a.contains s && !b.contains s) := contains_filter _ a s

theorem litInter_has (x y : LitSet) (s : String) :
    subLitHas (litInter x y) s = (LitSet.has x s && LitSet.has y s) :=
  match x, y with
  | ⟨true, vx⟩, ⟨true, vy⟩ => (mkLit_has true _ s).trans (contains_lsInter vx vy s)
  | ⟨false, vx⟩, ⟨false, vy⟩ =>
    (mkLit_has false _ s).trans ((congrArg not (contains_lsUnion vx vy s)).trans (Bool.not_or _ _))
  | ⟨true, vx⟩, ⟨false, vy⟩ => (mkLit_has true _ s).trans (contains_lsDiff vx vy s)
  | ⟨false, vx⟩, ⟨true, vy⟩ => (mkLit_has true _ s).trans ((contains_lsDiff vy vx s).trans (Bool.and_comm _ _))

theorem not_and_not_right (p q : Bool) : (!(q && !p)) = (p || !q) := by cases p <;> cases q <;> rfl

theorem litUnion_has (x y : LitSet) (s : String) :
    subLitHas (litUnion x y) s = (LitSet.has x s || LitSet.has y s) :=
  match x, y with
  | ⟨true, vx⟩, ⟨true, vy⟩ => (mkLit_has true _ s).trans (contains_lsUnion vx vy s)
  | ⟨false, vx⟩, ⟨false, vy⟩ =>
    (mkLit_has false _ s).trans ((congrArg not (contains_lsInter vx vy s)).trans (Bool.not_and _ _))
  | ⟨true, vx⟩, ⟨false, vy⟩ =>
    (mkLit_has false _ s).trans ((congrArg not (contains_lsDiff vy vx s)).trans (not_and_not_right _ _))
  | ⟨false, vx⟩, ⟨true, vy⟩ =>
    (mkLit_has false _ s).trans ((congrArg not (contains_lsDiff vx vy s)).trans
      ((not_and_not_right _ _).trans (Bool.or_comm _ _)))

theorem litCompl_has (x : LitSet) (s : String) : LitSet.has (litCompl x) s = !LitSet.has x s := by
  rcases x with ⟨ax, vx⟩
  cases ax <;> simp [litCompl, LitSet.has]

theorem litDiff_has (x y : LitSet) (s : String) :
    subLitHas (litDiff x y) s = (LitSet.has x s && !LitSet.has y s) := by
  unfold litDiff
  rw [litInter_has, litCompl_has]

/-- the values of the tags that are not object / list shaped -/
inductive Scalar where
  | null
  | bool (b : Bool)
  | num (c : String)
  | str (s : String)
  | vu (s : String)   -- "undefined" / "void"
  | absent          -- "the property is absent" (OptionalProp)
  | other           -- any value of the remaining tags
  deriving DecidableEq, Repr

def subBoolHas : Sem.Sub Bool → Bool → Bool
  | .none, _ => false
  | .all, _ => true
  | .some a, b => a == b

def hasScalar (t : SemType) : Scalar → Bool
  | .null => t.null
  | .bool b => subBoolHas t.bool b
  | .num c => subLitHas t.num c
  | .str s => subLitHas t.str s
  | .vu s => subLitHas t.vu s
  | .absent => t.opt
  | .other => t.other

theorem subInter_has {α β : Type} (has : Sem.Sub α → β → Bool) (h0 : ∀ s, has .none s = false) (h1 : ∀ s, has .all s = true)
    (f : α → α → Option (Sem.Sub α))
    (hf : ∀ a b, ∃ r, f a b = some r ∧ ∀ s, has r s = (has (.some a) s && has (.some b) s)) :
    ∀ x y, ∃ r, subInter f x y = some r ∧ ∀ s, has r s = (has x s && has y s)
  | .none, _ => ⟨_, rfl, fun s => by rw [h0]; rfl⟩
  | .all, .none => ⟨_, rfl, fun s => by rw [h0, h1]; rfl⟩
  | .all, .all => ⟨_, rfl, fun s => by rw [h1]; rfl⟩
  | .all, .some _ => ⟨_, rfl, fun s => by rw [h1]; rfl⟩
  | .some _, .none => ⟨_, rfl, fun s => by rw [h0, Bool.and_false]⟩
  | .some _, .all => ⟨_, rfl, fun s => by rw [h1, Bool.and_true]⟩
  | .some a, .some b => hf a b

theorem subUnion_has {α β : Type} (has : Sem.Sub α → β → Bool) (h0 : ∀ s, has .none s = false) (h1 : ∀ s, has .all s = true)
    (f : α → α → Option (Sem.Sub α))
    (hf : ∀ a b, ∃ r, f a b = some r ∧ ∀ s, has r s = (has (.some a) s || has (.some b) s)) :
    ∀ x y, ∃ r, subUnion f x y = some r ∧ ∀ s, has r s = (has x s || has y s)
  | .all, _ => ⟨_, rfl, fun s => by rw [h1]; rfl⟩
  | .none, .all => ⟨_, rfl, fun s => by rw [h0, h1]; rfl⟩
  | .none, .none => ⟨_, rfl, fun s => by rw [h0]; rfl⟩
  | .none, .some _ => ⟨_, rfl, fun s => by rw [h0]; rfl⟩
  | .some _, .all => ⟨_, rfl, fun s => by rw [h1, Bool.or_true]⟩
  | .some _, .none => ⟨_, rfl, fun s => by rw [h0, Bool.or_false]⟩
  | .some a, .some b => hf a b

theorem subDiff_has {α β : Type} (has : Sem.Sub α → β → Bool) (h0 : ∀ s, has .none s = false) (h1 : ∀ s, has .all s = true)
    (compl : α → Option α) (f : α → α → Option (Sem.Sub α))
    (hc : ∀ b, ∃ c, compl b = some c ∧ ∀ s, has (.some c) s = !has (.some b) s)
    (hf : ∀ a b, ∃ r, f a b = some r ∧ ∀ s, has r s = (has (.some a) s && !has (.some b) s)) :
    ∀ x y, ∃ r, subDiff compl f x y = some r ∧ ∀ s, has r s = (has x s && !has y s)
  | .none, _ => ⟨_, rfl, fun s => by rw [h0]; rfl⟩
  | .all, .all => ⟨_, rfl, fun s => by rw [h0, h1]; rfl⟩
  | .some _, .all => ⟨_, rfl, fun s => by rw [h0, h1, Bool.not_true, Bool.and_false]⟩
  | .all, .none => ⟨_, rfl, fun s => by rw [h0, h1]; rfl⟩
  | .some _, .none => ⟨_, rfl, fun s => by rw [h0, Bool.not_false, Bool.and_true]⟩
  | .all, .some b => by
    obtain ⟨c, hcb, hcs⟩ := hc b
    exact ⟨.some c, by show (compl b).map _ = _; rw [hcb]; rfl, fun s => by rw [h1, hcs]; rfl⟩
  | .some a, .some b => hf a b

theorem subInter_lit (x y : Sem.Sub LitSet) :
    ∃ r, subInter (fun a b => some (litInter a b)) x y = some r ∧ ∀ s, subLitHas r s = (subLitHas x s && subLitHas y s) :=
  subInter_has subLitHas (fun _ => rfl) (fun _ => rfl) _ (fun a b => ⟨_, rfl, litInter_has a b⟩) x y

theorem subUnion_lit (x y : Sem.Sub LitSet) :
    ∃ r, subUnion (fun a b => some (litUnion a b)) x y = some r ∧ ∀ s, subLitHas r s = (subLitHas x s || subLitHas y s) :=
  subUnion_has subLitHas (fun _ => rfl) (fun _ => rfl) _ (fun a b => ⟨_, rfl, litUnion_has a b⟩) x y

theorem subDiff_lit (x y : Sem.Sub LitSet) :
    ∃ r, subDiff (fun a => some (litCompl a)) (fun a b => some (litDiff a b)) x y = some r ∧
      ∀ s, subLitHas r s = (subLitHas x s && !subLitHas y s) :=
  subDiff_has subLitHas (fun _ => rfl) (fun _ => rfl) _ _ (fun b => ⟨_, rfl, litCompl_has b⟩)
    (fun a b => ⟨_, rfl, litDiff_has a b⟩) x y

theorem subInter_bool (x y : Sem.Sub Bool) :
    ∃ r, subInter boolInter x y = some r ∧ ∀ b, subBoolHas r b = (subBoolHas x b && subBoolHas y b) :=
  subInter_has subBoolHas (fun _ => rfl) (fun _ => rfl) _ (fun a b => ⟨_, rfl, by revert a b; decide⟩) x y

theorem subUnion_bool (x y : Sem.Sub Bool) :
    ∃ r, subUnion boolUnion x y = some r ∧ ∀ b, subBoolHas r b = (subBoolHas x b || subBoolHas y b) :=
  subUnion_has subBoolHas (fun _ => rfl) (fun _ => rfl) _ (fun a b => ⟨_, rfl, by revert a b; decide⟩) x y

theorem subDiff_bool (x y : Sem.Sub Bool) :
    ∃ r, subDiff (fun x => some (!x)) boolDiff x y = some r ∧ ∀ b, subBoolHas r b = (subBoolHas x b && !subBoolHas y b) :=
  subDiff_has subBoolHas (fun _ => rfl) (fun _ => rfl) _ _ (fun b => ⟨_, rfl, by revert b; decide⟩)
    (fun a b => ⟨_, rfl, by revert a b; decide⟩) x y

/-- a type without object / list part -/
def ScalarOnly (t : SemType) : Prop := t.mapping = .none ∧ t.list = .none

/-- a cofinite set of strings is never empty: some string is longer than all the listed ones -/
theorem exists_not_mem (vs : List String) : ∃ s : String, s ∉ vs := by
  have bound : ∃ n, ∀ s ∈ vs, s.length < n := by
    induction vs with
    | nil => exact ⟨0, nofun⟩
    | cons v vs ih =>
      obtain ⟨n, hn⟩ := ih
      refine ⟨max n (v.length + 1), fun s hs => ?_⟩
      rcases List.mem_cons.1 hs with rfl | h
      · exact Nat.lt_of_lt_of_le (Nat.lt_succ_self _) (Nat.le_max_right _ _)
      · exact Nat.lt_of_lt_of_le (hn s h) (Nat.le_max_left _ _)
  obtain ⟨n, hn⟩ := bound
  refine ⟨String.ofList (List.replicate n 'x'), fun h => ?_⟩
  have := hn _ h
  rw [String.length_ofList, List.length_replicate] at this
  exact Nat.lt_irrefl n this

/-- well-formed literal sets: the normal form kept by `mkLit` (a proper subtype lists at least one literal) -/
def WFLit : Sem.Sub LitSet → Prop
  | .some x => x.values ≠ []
  | _ => True

theorem subLit_inhabited (x : Sem.Sub LitSet) (hw : WFLit x) (hne : x ≠ .none) : ∃ s, subLitHas x s = true := by
  cases x with
  | none => exact absurd rfl hne
  | all => exact ⟨"", rfl⟩
  | some ls =>
    rcases ls with ⟨al, vs⟩
    cases al with
    | true =>
      cases vs with
      | nil => exact absurd rfl hw
      | cons v _ => exact ⟨v, by simp [subLitHas, LitSet.has]⟩
    | false =>
      obtain ⟨s, hs⟩ := exists_not_mem vs
      exact ⟨s, by simp [subLitHas, LitSet.has, hs]⟩

theorem mkLit_wf (a : Bool) (vs : List String) : WFLit (mkLit a vs) := by
  cases vs with
  | nil => cases a <;> trivial
  | cons _ _ => exact List.cons_ne_nil _ _

theorem litInter_wf : ∀ (x y : LitSet), WFLit (litInter x y)
  | ⟨true, _⟩, ⟨true, _⟩ => mkLit_wf _ _
  | ⟨false, _⟩, ⟨false, _⟩ => mkLit_wf _ _
  | ⟨true, _⟩, ⟨false, _⟩ => mkLit_wf _ _
  | ⟨false, _⟩, ⟨true, _⟩ => mkLit_wf _ _

theorem subDiff_lit_wf (x y : Sem.Sub LitSet) (hx : WFLit x) (hy : WFLit y) (r : Sem.Sub LitSet)
    (h : subDiff (fun a => some (litCompl a)) (fun a b => some (litDiff a b)) x y = some r) : WFLit r := by
  cases x <;> cases y <;> cases Option.some.inj h <;> first | trivial | exact hx | exact hy | exact litInter_wf _ _

/-- the literal-set parts of the vector are in `mkLit`'s normal form -/
def WF (t : SemType) : Prop := WFLit t.num ∧ WFLit t.str ∧ WFLit t.vu

/-- with a scalar-only left operand `diff` is defined, scalar-only again, exact on scalar values, and keeps the normal form -/
theorem diff_scalarOnly (a b : SemType) (ha : ScalarOnly a) :
    ∃ d, diff a b = some d ∧ ScalarOnly d ∧ (∀ v, hasScalar d v = (hasScalar a v && !hasScalar b v)) ∧
      (WF a → WF b → WF d) := by
  obtain ⟨rb, hb1, hb2⟩ := subDiff_bool a.bool b.bool
  obtain ⟨rn, hn1, hn2⟩ := subDiff_lit a.num b.num
  obtain ⟨rs, hs1, hs2⟩ := subDiff_lit a.str b.str
  obtain ⟨rv, hv1, hv2⟩ := subDiff_lit a.vu b.vu
  refine ⟨{ bool := rb, num := rn, str := rs, null := a.null && !b.null, opt := a.opt && !b.opt, mapping := .none,
            list := .none, vu := rv, other := a.other && !b.other }, ?_, ⟨rfl, rfl⟩, fun v => ?_, fun hwa hwb =>
      ⟨subDiff_lit_wf _ _ hwa.1 hwb.1 _ hn1, subDiff_lit_wf _ _ hwa.2.1 hwb.2.1 _ hs1,
        subDiff_lit_wf _ _ hwa.2.2 hwb.2.2 _ hv1⟩⟩
  · unfold diff
    rw [hb1, hn1, hs1, hv1, ha.1, ha.2]
    rfl
  · cases v
    · rfl
    · exact hb2 _
    · exact hn2 _
    · exact hs2 _
    · exact hv2 _
    · rfl
    · rfl

/-- the vector has a scalar tag that is not empty as far as `is_empty_status` looks -/
def scalarBits (t : SemType) : Bool :=
  t.bool != .none || t.num != .none || t.str != .none || t.null || t.opt || t.vu != .none || t.other

theorem scalarBits_iff (t : SemType) (hw : WF t) : scalarBits t = true ↔ ∃ v, hasScalar t v = true := by
  unfold scalarBits
  simp only [Bool.or_eq_true, bne_iff_ne, ne_eq]
  constructor
  · rintro ((((((h | h) | h) | h) | h) | h) | h)
    · cases hb : t.bool with
      | none => exact absurd hb h
      | all => exact ⟨.bool true, by rw [hasScalar, hb]; rfl⟩
      | some b => exact ⟨.bool b, by rw [hasScalar, hb]; exact beq_self_eq_true b⟩
    · obtain ⟨s, hs⟩ := subLit_inhabited t.num hw.1 h
      exact ⟨.num s, hs⟩
    · obtain ⟨s, hs⟩ := subLit_inhabited t.str hw.2.1 h
      exact ⟨.str s, hs⟩
    · exact ⟨.null, h⟩
    · exact ⟨.absent, h⟩
    · obtain ⟨s, hs⟩ := subLit_inhabited t.vu hw.2.2 h
      exact ⟨.vu s, hs⟩
    · exact ⟨.other, h⟩
  · rintro ⟨v, hv⟩
    cases v with
    | null => exact Or.inl (Or.inl (Or.inl (Or.inr hv)))
    | bool b => exact Or.inl (Or.inl (Or.inl (Or.inl (Or.inl (Or.inl fun e => by rw [hasScalar, e] at hv; cases hv)))))
    | num c => exact Or.inl (Or.inl (Or.inl (Or.inl (Or.inl (Or.inr fun e => by rw [hasScalar, e] at hv; cases hv)))))
    | str c => exact Or.inl (Or.inl (Or.inl (Or.inl (Or.inr fun e => by rw [hasScalar, e] at hv; cases hv))))
    | vu c => exact Or.inl (Or.inr fun e => by rw [hasScalar, e] at hv; cases hv)
    | absent => exact Or.inl (Or.inl (Or.inr hv))
    | other => exact Or.inr hv

/-- emptiness of a scalar-only, well-formed type vector is decided exactly (for every positive fuel) -/
theorem isEmpty_scalarOnly (n : Nat) (t : SemType) (c : Ctx) (ht : ScalarOnly t) (hw : WF t) :
    ∃ r, isEmpty (n + 1) t c = some (r, c) ∧ (r = true ↔ ∀ v, hasScalar t v = false) := by
  refine ⟨!scalarBits t, ?_, ?_⟩
  · obtain ⟨b, n', s, nu, o, m, l, v, ot⟩ := t
    cases ht.1
    cases ht.2
    show (if scalarBits ⟨b, n', s, nu, o, .none, .none, v, ot⟩ = true then (pure false : SM Bool) else _) c = _
    cases scalarBits ⟨b, n', s, nu, o, .none, .none, v, ot⟩ <;> rfl
  · rw [Bool.not_eq_true', ← Bool.not_eq_true, scalarBits_iff t hw]
    simp only [not_exists, Bool.not_eq_true]

/-- **Scalar fragment: assignability = inclusion.** For well-formed type vectors without object / list part and every
positive fuel, `is_subtype` answers (never runs out of fuel, leaves the context alone) and says yes exactly when
every scalar value of `a` is a value of `b`. -/
theorem scalar_subtype_iff_inclusion (n : Nat) (a b : SemType) (c : Ctx)
    (ha : ScalarOnly a) (hwa : WF a) (hwb : WF b) :
    ∃ r, isSubtype (n + 1) a b c = some (r, c) ∧ (r = true ↔ ∀ v, hasScalar a v = true → hasScalar b v = true) := by
  obtain ⟨d, hd, hds, hdv, hwd⟩ := diff_scalarOnly a b ha
  obtain ⟨r, hr, hiff⟩ := isEmpty_scalarOnly n d c hds (hwd hwa hwb)
  refine ⟨r, ?_, hiff.trans (forall_congr' fun v => ?_)⟩
  · unfold isSubtype
    rw [hd]
    exact hr
  · rw [hdv]
    cases hasScalar a v <;> cases hasScalar b v <;> decide

/-- `is_subtype` is emptiness of the difference -/
theorem isSubtype_def (fuel : Nat) (a b : SemType) :
    isSubtype fuel a b = (do let d ← SM.lift (diff a b); isEmpty fuel d) := rfl

-- ---------- the full statement is false for unions of object types on the left (D25) ----------
/-- `{} | { a: true }` against `{ a?: string }`, converted and decided by the model of the engine -/
def d25Decision : Option Bool :=
  let named : Named := []
  let a : IR := .anyOf [.object [] none, .object [("a", true, .const (.bool true))] none]
  let b : IR := .object [("a", false, .string)] none
  let run : SM Bool := do
    let sa ← convert named 50 [] a
    let sb ← convert named 50 [] b
    isSubtype 100 sa sb
  (run {}).map (·.1)

/-- the engine answers "assignable", but `{ a: true }` is an exact value of the left type and not a value of the right
(the flag of a member says "required" in `IR`, "optional" in `Ty`) -/
theorem object_union_on_the_left_is_unsound :
    d25Decision = some true ∧
    SubSpec.memR [] true 10 (.union [.obj [] none, .obj [("a", false, .lit (.bool true))] none])
      (.obj [("a", .bool true)]) = some true ∧
    SubSpec.memR [] false 10 (.obj [("a", true, .kw "string")] none) (.obj [("a", .bool true)]) = some false := by
  decide +kernel

-- ---------- … and for unions of index-signature object types on the right (D84) ----------
/-- `{[k: string]: number | string}` against `{[k: string]: number} | {[k: string]: string}` -/
def d84Decision : Option Bool :=
  let named : Named := []
  let ix (v : IR) : IR := .object [] (some (.string, true, v))
  let a : IR := ix (.anyOf [.number, .string])
  let b : IR := .anyOf [ix .number, ix .string]
  let run : SM Bool := do
    let sa ← convert named 50 [] a
    let sb ← convert named 50 [] b
    isSubtype 100 sa sb
  (run {}).map (·.1)

/-- the engine answers "assignable", but `{k1: 7, k2: "x"}` is an exact value of the left type and a value of neither
member of the right one: all undeclared keys are treated as one coordinate -/
theorem index_union_on_the_right_is_unsound :
    d84Decision = some true ∧
    SubSpec.memR [] true 10 (.obj [] (some (.kw "string", .union [.kw "number", .kw "string"])))
      (.obj [("k1", .num "7"), ("k2", .str "x")]) = some true ∧
    SubSpec.memR [] false 10 (.union [.obj [] (some (.kw "string", .kw "number")), .obj [] (some (.kw "string", .kw "string"))])
      (.obj [("k1", .num "7"), ("k2", .str "x")]) = some false := by
  decide +kernel

end BeffVerif.C05
