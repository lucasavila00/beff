import BeffVerif.Props.C02Frag
/-!
# C02 — soundness of the flat schema on the structural fragment

`FragSchema` says what the flat printer returns on each constructor of the fragment (`frag_schema`); soundness (here), totality
and the converse (Props/C02Complete.lean) are inductions over it. Soundness proper is "a document the schema accepts is not
rejected" (`FragSchema.good`); that the validator of a fragment type neither throws nor runs out of fuel (`frag_nt`,
`validate_frag_answers`) does not involve the schema.
-/
namespace BeffVerif.C02F
open BeffVerif RT JsVal JS C02E

theorem getElem_mem_zip {α β : Type} {l : List α} {r : List β} {i : Nat} (h1 : i < l.length) (h2 : i < r.length) :
    (l[i], r[i]) ∈ l.zip r :=
  List.mem_iff_getElem.2 ⟨i, by rw [List.length_zip]; exact Nat.lt_min.2 ⟨h1, h2⟩, List.getElem_zip⟩

theorem exists_right_of_mem_zip_left {α β : Type} {l : List α} {r : List β} (hl : r.length = l.length) {x : α} (hx : x ∈ l) :
    ∃ y, (x, y) ∈ l.zip r := by
  obtain ⟨i, hi, rfl⟩ := List.mem_iff_getElem.1 hx
  exact ⟨_, getElem_mem_zip hi (hl ▸ hi)⟩

theorem exists_left_of_mem_zip_right {α β : Type} {l : List α} {r : List β} (hl : r.length = l.length) {y : β} (hy : y ∈ r) :
    ∃ x, (x, y) ∈ l.zip r := by
  obtain ⟨i, hi, rfl⟩ := List.mem_iff_getElem.1 hy
  exact ⟨_, getElem_mem_zip (hl ▸ hi) hi⟩

theorem mem_zip_range {α : Type} {l : List α} {q : α × Nat} (h : q ∈ l.zip (List.range l.length)) :
    ∃ (i : Nat) (hi : i < l.length), q = (l[i], i) := by
  obtain ⟨i, hi, e⟩ := List.mem_iff_getElem.1 h
  rw [List.length_zip, List.length_range, Nat.min_self] at hi
  refine ⟨i, hi, ?_⟩
  rw [← e]; simp

theorem not_contains_iff {l : List String} {a : String} : (!l.contains a) = true ↔ a ∉ l := by
  rw [Bool.not_eq_true', ← Bool.not_eq_true, List.contains_iff_mem]

/-- `v[k]` on a plain object, for a name Object.prototype does not answer -/
theorem getProp_obj {dprops : List (String × JsVal)} {k : String} (hk : protoNamedKey k = false) :
    (JsVal.obj dprops).getProp k = (lookupProp dprops k).getD .undef := by
  simp only [protoNamedKey, Bool.or_eq_false_iff, beq_eq_false_iff_ne, ne_eq] at hk
  unfold JsVal.getProp
  simp only [JsVal.getOwn?]
  cases lookupProp dprops k with
  | some x => rfl
  | none =>
    simp only [Option.getD_none]
    unfold JsVal.getInherited
    have h2 : ¬ k ∈ objectProtoFns := by simpa using hk.2
    simp [hk.1, h2]

/-- a schema from which a null branch can be removed accepts `null` as soon as it answers on `null` at all -/
theorem rnb_valid_null (P : Params) {n : Nat} {s r : JsVal} (hp : pureS n s = true) (hr : removeNullUnionBranch n s = some r)
    (hd : ∃ k b, valid P k s .null = some b) : ∃ k, valid P k s .null = some true := by
  obtain ⟨k, b, hb⟩ := hd
  obtain ⟨k', b', hb'⟩ := rnb_defined P n s r hp hr k .null b hb
  obtain ⟨k'', e⟩ := rnb_sem P n s r hp hr k' .null b' hb'
  exact ⟨k'', by rw [e, typeOk_eq, beq_self_eq_true, Bool.or_true]⟩

theorem typeOk_inv {t : String} {d : JsVal} (h : typeOk t d = true) :
    (t = "null" ∧ d = .null) ∨ (t = "boolean" ∧ ∃ b, d = .bool b) ∨ (t = "number" ∧ ∃ c, d = .num c) ∨
    (t = "string" ∧ ∃ s, d = .str s) ∨ (t = "array" ∧ ∃ xs, d = .arr xs) ∨ (t = "object" ∧ ∃ ps, d = .obj ps) := by
  rw [typeOk_eq] at h
  cases d with
  | null => exact .inl ⟨beq_iff_eq.1 h, rfl⟩
  | bool b => exact .inr (.inl ⟨beq_iff_eq.1 h, _, rfl⟩)
  | num c => exact .inr (.inr (.inl ⟨beq_iff_eq.1 h, _, rfl⟩))
  | str s => exact .inr (.inr (.inr (.inl ⟨beq_iff_eq.1 h, _, rfl⟩)))
  | arr xs => exact .inr (.inr (.inr (.inr (.inl ⟨beq_iff_eq.1 h, _, rfl⟩))))
  | obj ps => exact .inr (.inr (.inr (.inr (.inr ⟨beq_iff_eq.1 h, _, rfl⟩))))
  | _ => cases h

theorem typeOf_of_typeOk {t : String} {d : JsVal} (ht : (t = "string" ∨ t = "number") ∨ t = "boolean")
    (h : typeOk t d = true) : d.typeOf = t := by
  rcases typeOk_inv h with ⟨rfl, _⟩ | ⟨rfl, _, rfl⟩ | ⟨rfl, _, rfl⟩ | ⟨rfl, _, rfl⟩ | ⟨rfl, _⟩ | ⟨rfl, _⟩
  · simp at ht
  · rfl
  · rfl
  · rfl
  · simp at ht
  · simp at ht

theorem typeOk_null {d : JsVal} (h : typeOk "null" d = true) : d = .null := by
  rcases typeOk_inv h with ⟨_, e⟩ | ⟨e, _⟩ | ⟨e, _⟩ | ⟨e, _⟩ | ⟨e, _⟩ | ⟨e, _⟩
  · exact e
  all_goals simp at e

theorem typeOk_bool (b : Bool) : typeOk "boolean" (.bool b) = true := by rw [typeOk_eq]; exact beq_self_eq_true _
theorem typeOk_num (c : String) : typeOk "number" (.num c) = true := by rw [typeOk_eq]; exact beq_self_eq_true _
theorem typeOk_str (s : String) : typeOk "string" (.str s) = true := by rw [typeOk_eq]; exact beq_self_eq_true _

/-- the flat printing mode of `schema()` -/
def flat : SOpts := ⟨false, "", []⟩

/-- `s` is what the flat printer returns for the type `rt` of the fragment (fuel `n`, inside the named types `seen`): one
constructor per case of `frag`, with its side conditions. The description, which the printer attaches at some levels and not
at others, may sit anywhere (`annotated`): no verdict depends on it. In `object`, `raw k` is the schema printed for the
property named `k`, before `removeNullUnionBranch`; `frag` of the property types stays for `validate_null_undef`. -/
inductive FragSchema (env : Env) : Nat → List String → RT → JsVal → Prop
  | annotated {n seen rt s} (desc : Option String) : FragSchema env n seen rt s → FragSchema env n seen rt (annotate desc s)
  | described {n seen t s} (d : String) : FragSchema env n seen t s → FragSchema env (n+1) seen (.described d t) s
  | typeof {n seen t} : (t = "string" ∨ t = "number") ∨ t = "boolean" →
      FragSchema env (n+1) seen (.typeof t) (jobj [("type", .str t)])
  | any {n seen} : FragSchema env (n+1) seen .any (jobj [])
  | nullish {n seen} (x : String) : FragSchema env (n+1) seen (.nullish x) (jobj [("type", .str "null")])
  | never {n seen} : FragSchema env (n+1) seen .never (jobj [("not", jobj [])])
  | const {n seen v} : primConst v = true ∨ v.isNullish = true →
      FragSchema env (n+1) seen (.const v) (jobj [("const", if v.isNullish then .null else v)])
  | consts {n seen vs} : (∀ v ∈ vs, primConst v = true) → FragSchema env (n+1) seen (.consts vs) (jobj [("enum", .arr vs)])
  | constsTyped {n seen vs tp} : (∀ v ∈ vs, primConst v = true) → (∀ v ∈ vs, jsTypeof v = jsTypeof (vs.headD .null)) →
      typeofOfConst (vs.headD .null) = some tp →
      FragSchema env (n+1) seen (.consts vs) (jobj [("type", .str tp), ("enum", .arr vs)])
  | ref {n seen name t s} : env.lookup name = some t → FragSchema env n (name :: seen) t s →
      FragSchema env (n+1) seen (.ref name) s
  | array {n seen t s} : FragSchema env n seen t s →
      FragSchema env (n+1) seen (.array t) (jobj [("type", .str "array"), ("items", s)])
  | optional {n seen t s} : FragSchema env n seen t s →
      FragSchema env (n+1) seen (.optional t) (jobj [("anyOf", .arr [s, jobj [("type", .str "null")]])])
  | anyOf {n seen ts ss} : ss.length = ts.length → (∀ p ∈ ts.zip ss, FragSchema env n seen p.1 p.2) →
      FragSchema env (n+1) seen (.anyOf ts) (jobj [("anyOf", .arr ss)])
  | tuple {n seen pre rest ps items} : ps.length = pre.length → (∀ p ∈ pre.zip ps, FragSchema env n seen p.1 p.2) →
      (∀ r, rest = some r → FragSchema env n seen r items) → (rest = none → items = .bool false) →
      FragSchema env (n+1) seen (.tuple pre rest)
        (jobj ([("type", JsVal.str "array")] ++ (if ps.length > 0 then [("prefixItems", JsVal.arr ps)] else []) ++
          [("items", items), ("minItems", JsVal.num (natToCanon pre.length))]))
  | object {n seen props ps} {opt : List String} (raw : String → JsVal) :
      (∀ p ∈ props, protoNamedKey p.1 = false ∧ frag env n seen p.2 = true) →
      (∀ p ∈ props, FragSchema env n seen p.2 (raw p.1)) →
      (∀ q, q ∈ ps ↔ ∃ p ∈ props, q = (p.1, (removeNullUnionBranch 50 (raw p.1)).getD (raw p.1))) →
      (∀ p ∈ props, p.1 ∈ opt ↔ (removeNullUnionBranch 50 (raw p.1)).isSome = true ∨ isOptionalRT p.2 = true) →
      FragSchema env (n+1) seen (.object props [])
        (jobj ([("type", JsVal.str "object"), ("properties", JsVal.obj ps)] ++
          (if ((props.map (·.1)).filter (fun k => !opt.contains k)).length > 0
            then [("required", JsVal.arr (((props.map (·.1)).filter (fun k => !opt.contains k)).map JsVal.str))] else []) ++
          [("additionalProperties", JsVal.bool false)]))

theorem mem_setProp_fresh {l : List (String × JsVal)} {k : String} {v : JsVal} (h : ∀ x ∈ l, x.1 ≠ k) (q : String × JsVal) :
    q ∈ setProp l k v ↔ q = (k, v) ∨ q ∈ l := by
  obtain ⟨a, b, rfl, e⟩ := setProp_fresh (List.any_eq_false.2 fun x hx => by simpa using h x hx) v
  rw [e, List.mem_append, List.mem_append, List.mem_singleton, List.mem_append]
  exact or_assoc.trans or_left_comm

theorem propsS_ok (go : RT → SCtx → SRes JsVal) : ∀ (props : List (String × RT)) (ps0 : List (String × JsVal))
    (opt0 : List String) (c : SCtx) (ps : List (String × JsVal)) (opt : List String) (c1 : SCtx),
    propsS go props (ps0, opt0) c = .ok (ps, opt) c1 → nodupB (props.map (·.1)) = true →
    (∀ p ∈ props, ∀ q ∈ ps0, q.1 ≠ p.1) →
    ∃ raw : String → JsVal,
      (∀ p ∈ props, ∃ c' c'', go p.2 c' = .ok (raw p.1) c'') ∧
      (∀ q, q ∈ ps ↔ q ∈ ps0 ∨ ∃ p ∈ props, q = (p.1, (removeNullUnionBranch 50 (raw p.1)).getD (raw p.1))) ∧
      (∀ p ∈ props, p.1 ∈ opt ↔ p.1 ∈ opt0 ∨ (removeNullUnionBranch 50 (raw p.1)).isSome = true ∨ isOptionalRT p.2 = true) ∧
      (∀ k, k ∉ props.map (·.1) → (k ∈ opt ↔ k ∈ opt0)) := by
  intro props
  induction props with
  | nil =>
    intro ps0 opt0 c ps opt c1 h _ _
    simp only [propsS, SRes.ok.injEq, Prod.mk.injEq] at h
    obtain ⟨⟨rfl, rfl⟩, _⟩ := h
    exact ⟨fun _ => .null, nofun, fun q => ⟨.inl, fun h => h.elim id (fun ⟨_, h, _⟩ => nomatch h)⟩, nofun, fun _ _ => Iff.rfl⟩
  | cons p rest ih =>
    intro ps0 opt0 c ps opt c1 h hnd hfresh
    simp only [List.map_cons, nodupB, Bool.and_eq_true, Bool.not_eq_true', List.contains_eq_mem, decide_eq_false_iff_not] at hnd
    obtain ⟨hp, hnd⟩ := hnd
    have hne : ∀ p' ∈ rest, p'.1 ≠ p.1 := fun p' hp' e => hp (e ▸ List.mem_map.2 ⟨p', hp', rfl⟩)
    rw [propsS_cons] at h
    obtain ⟨r, c', hg, h⟩ := SRes.bind_eq_ok h
    -- both branches store `r` without its null branch; they differ in how `p.1` gets into the optional names
    obtain ⟨opt0', hrest, hopt⟩ : ∃ opt0', propsS go rest (setProp ps0 p.1 ((removeNullUnionBranch 50 r).getD r), opt0') c' = .ok (ps, opt) c1 ∧
        ∀ k, k ∈ opt0' ↔ k ∈ opt0 ∨ (k = p.1 ∧ ((removeNullUnionBranch 50 r).isSome = true ∨ isOptionalRT p.2 = true)) := by
      cases hr : removeNullUnionBranch 50 r with
      | some rw' => rw [hr] at h; exact ⟨_, h, fun k => by simp⟩
      | none =>
        rw [hr] at h
        refine ⟨_, h, fun k => ?_⟩
        by_cases ho : isOptionalRT p.2 = true <;> simp [ho]
    have hfresh0 : ∀ x ∈ ps0, x.1 ≠ p.1 := fun x hx => hfresh p List.mem_cons_self x hx
    obtain ⟨raw', i1, i2, i3, i4⟩ := ih _ _ _ _ _ _ hrest hnd (fun p' hp' q hq => by
      rcases (mem_setProp_fresh hfresh0 q).1 hq with rfl | hq
      · exact fun e => hne p' hp' e.symm
      · exact hfresh p' (List.mem_cons_of_mem _ hp') q hq)
    obtain ⟨raw, hrp, hraw⟩ : ∃ raw : String → JsVal, raw p.1 = r ∧ ∀ p' ∈ rest, raw p'.1 = raw' p'.1 :=
      ⟨fun k => if k = p.1 then r else raw' k, if_pos rfl, fun p' hp' => if_neg (hne p' hp')⟩
    refine ⟨raw, ?_, ?_, ?_, ?_⟩
    · intro q hq
      rcases List.mem_cons.1 hq with rfl | hq
      · exact ⟨c, c', by rw [hrp]; exact hg⟩
      · rw [hraw q hq]; exact i1 q hq
    · intro q
      rw [i2, mem_setProp_fresh hfresh0]
      simp only [List.mem_cons, exists_eq_or_imp, hrp]
      constructor
      · rintro ((h1 | h1) | ⟨p', hp', e⟩)
        · exact .inr (.inl h1)
        · exact .inl h1
        · exact .inr (.inr ⟨p', hp', by rw [hraw p' hp']; exact e⟩)
      · rintro (h1 | h1 | ⟨p', hp', e⟩)
        · exact .inl (.inr h1)
        · exact .inl (.inl h1)
        · exact .inr ⟨p', hp', by rw [hraw p' hp'] at e; exact e⟩
    · intro q hq
      rcases List.mem_cons.1 hq with rfl | hq
      · rw [i4 _ hp, hopt, hrp]; simp
      · rw [hraw q hq, i3 q hq, hopt]; simp [hne q hq]
    · intro k hk
      simp only [List.map_cons, List.mem_cons, not_or] at hk
      rw [i4 k hk.2, hopt]; simp [hk.1]

theorem frag_schema (env : Env) : ∀ n seen rt desc c s c', frag env n seen rt = true →
    schema env flat n rt desc seen c = .ok s c' → FragSchema env n seen rt s := by
  intro n
  induction n with
  | zero => intro seen rt desc c s c' h; simp [frag] at h
  | succ n ih =>
    intro seen rt desc c s c' hf hs
    cases rt with
    | described d t => exact .described d (ih seen t (some d) c s c' hf hs)
    | typeof t =>
      cases hs
      exact .annotated desc (.typeof (by simpa [frag] using hf))
    | any => cases hs; exact .annotated desc .any
    | nullish x => cases hs; exact .annotated desc (.nullish x)
    | never => cases hs; exact .annotated desc .never
    | const v =>
      cases hs
      exact .annotated desc (.const (by simpa [frag] using hf))
    | consts vs =>
      simp only [frag, List.all_eq_true] at hf
      dsimp only [schema] at hs
      split at hs
      · rename_i tp htp
        cases hs
        split at htp
        · rename_i hsingle
          simp only [Bool.and_eq_true, List.all_eq_true, beq_iff_eq] at hsingle
          exact .annotated desc (.constsTyped hf hsingle.2 htp)
        · cases htp
      · cases hs; exact .annotated desc (.consts hf)
    | ref name =>
      simp only [frag, Bool.and_eq_true, Bool.not_eq_true'] at hf
      rw [schema_ref_flat env flat n desc seen rfl] at hs
      obtain ⟨t, c0, ho, hs'⟩ := SRes.bind_eq_ok hs
      obtain ⟨hl, rfl⟩ := SRes.ofOption_eq_ok ho
      rw [hl] at hf
      rw [if_neg (by rw [hf.1]; exact Bool.false_ne_true)] at hs'
      obtain ⟨s0, c1, hr, hs'⟩ := SRes.bind_eq_ok hs'
      cases hs'
      exact .annotated desc (.ref hl (ih _ t none _ s0 _ hf.2 hr))
    | array t =>
      rw [schema_plain env flat n desc seen rfl] at hs
      obtain ⟨s0, c0, hr, hs⟩ := SRes.bind_eq_ok hs
      cases hs
      exact .annotated desc (.array (ih seen t none c s0 _ hf hr))
    | optional t =>
      rw [schema_plain env flat n desc seen rfl] at hs
      obtain ⟨s0, c0, hr, hs⟩ := SRes.bind_eq_ok hs
      cases hs
      exact .optional (ih seen t none c s0 _ hf hr)
    | anyOf ts =>
      simp only [frag, List.all_eq_true] at hf
      rw [schema_plain env flat n desc seen rfl] at hs
      obtain ⟨ss, c0, hr, hs⟩ := SRes.bind_eq_ok hs
      cases hs
      obtain ⟨hlen, hz⟩ := seqS_spec ts c ss _ hr
      refine .annotated desc (.anyOf hlen (fun p hp => ?_))
      obtain ⟨c1, c2, e⟩ := hz p hp
      exact ih seen p.1 none c1 p.2 c2 (hf p.1 (List.of_mem_zip hp).1) e
    | tuple pre rest =>
      simp only [frag, Bool.and_eq_true, List.all_eq_true] at hf
      rw [schema_plain env flat n desc seen rfl] at hs
      obtain ⟨ps, c1, hr, hs⟩ := SRes.bind_eq_ok hs
      obtain ⟨items, c2, hi, hs⟩ := SRes.bind_eq_ok hs
      cases hs
      obtain ⟨hlen, hz⟩ := seqS_spec pre c ps c1 hr
      refine .annotated desc (.tuple hlen (fun p hp => ?_) (fun r e => ?_) (fun e => ?_))
      · obtain ⟨d1, d2, e⟩ := hz p hp
        exact ih seen p.1 none d1 p.2 d2 (hf.1 p.1 (List.of_mem_zip hp).1) e
      · subst e; exact ih seen r none c1 items _ hf.2 hi
      · subst e; cases hi; rfl
    | object props ix =>
      simp only [frag, Bool.and_eq_true, List.all_eq_true, Bool.not_eq_true', List.isEmpty_iff] at hf
      obtain ⟨⟨rfl, hnd⟩, hprops⟩ := hf
      rw [schema_plain env flat n desc seen rfl] at hs
      obtain ⟨⟨ps, opt⟩, c1, hr, hs⟩ := SRes.bind_eq_ok hs
      cases hs
      obtain ⟨raw, r1, r2, r3, _⟩ := propsS_ok _ props [] [] c ps opt _ hr hnd (fun _ _ _ hq => by cases hq)
      refine .annotated desc (.object raw hprops (fun p hp => ?_)
        (fun q => (r2 q).trans ⟨fun h => h.resolve_left nofun, .inr⟩)
        (fun p hp => (r3 p hp).trans ⟨fun h => h.resolve_left nofun, .inr⟩))
      obtain ⟨d1, d2, e⟩ := r1 p hp
      exact ih seen p.2 none d1 _ d2 (hprops p hp).2 e
    | _ => simp [frag] at hf

theorem isObject_obj (dprops : List (String × JsVal)) : (!((JsVal.obj dprops).isObjectLike && !(JsVal.obj dprops).isArray)) = false := by
  simp [JsVal.isObjectLike, JsVal.typeOf, JsVal.isArray]

theorem forall_mem_optEntry {α : Type} {c : Prop} [Decidable c] {A B : List α} {x : α} {Q : α → Prop}
    (hA : ∀ a ∈ A, Q a) (hx : Q x) (hB : ∀ a ∈ B, Q a) : ∀ a ∈ A ++ (if c then [x] else []) ++ B, Q a := by
  intro a ha
  rcases List.mem_append.1 ha with ha | ha
  · rcases List.mem_append.1 ha with ha | ha
    · exact hA a ha
    · split at ha
      · rw [List.mem_singleton.1 ha]; exact hx
      · cases ha
  · exact hB a ha

/-- `s0`: either form the printer gives the `enum` of a literal union -/
theorem good_consts {P : Params} {env : Env} {vs : List JsVal} {s0 : JsVal} (hf : ∀ v ∈ vs, primConst v = true) (g0 : GoodS P s0)
    {g : JsVal → Bool} (h0 : ∀ k d, valid P (k+1) s0 d = some (g d)) (hg : ∀ d, g d = true → vs.any (fun c => jsonEq 50 c d) = true) :
    Good P env (.consts vs) s0 := by
  refine good_leaf g0 (fun m strict d => rfl) h0 (fun d hv => ?_)
  obtain ⟨x, hx, hj⟩ := List.any_eq_true.1 (hg d hv)
  exact Bool.or_eq_true_iff.2 (.inr (List.any_eq_true.2 ⟨x, hx, jsonEq_svz (hf x hx) hj⟩))

theorem typeofOfConst_ne_null {v : JsVal} {tp : String} (h : typeofOfConst v = some tp) : tp ≠ "null" := by
  unfold typeofOfConst at h
  split at h
  · cases h; simp
  · cases h; simp
  · cases h; simp
  · cases h

theorem FragSchema.good (P : Params) {env : Env} {n : Nat} {seen : List String} {rt : RT} {s : JsVal}
    (h : FragSchema env n seen rt s) : Good P env rt s := by
  induction h with
  | annotated desc _ ih => exact good_annotate desc ih
  | described d _ ih => exact good_wrap ih (fun m strict v => rfl)
  | typeof ht =>
    exact good_leaf (goodS_type P _) (fun m strict d => rfl) (fun k d => valid_type_eq P k _ d)
      (fun d h => beq_iff_eq.2 (typeOf_of_typeOk ht h))
  | any => exact good_leaf (goodS_empty P) (fun m strict d => rfl) (valid_empty P) (fun _ _ => rfl)
  | nullish x =>
    exact good_leaf (goodS_type P "null") (fun m strict d => rfl) (fun k d => valid_type_eq P k _ d) (fun d h => by rw [typeOk_null h]; rfl)
  | never => exact good_node (goodS_never P) (fun k d m strict hv => (valid_never_true hv).elim)
  | @const n seen v hv =>
    refine good_leaf (goodS_const P _) (fun m strict d => rfl) (fun k d => valid_const_eq P k _ d) (fun d hj => ?_)
    cases hn : v.isNullish with
    | true => simp only [hn, if_true] at hj ⊢; exact jsonEq_null hj
    | false =>
      simp only [hn, Bool.false_eq_true, if_false] at hj ⊢
      exact (jsonEq_strict (hv.resolve_right (by simp [hn])) hn d 49).symm.trans hj
  | consts hf => exact good_consts hf (goodS_enum P _) (fun k d => valid_enum_eq P k _ d) (fun _ h => h)
  | constsTyped hf _ htp =>
    exact good_consts hf (goodS_type_enum P _ (typeofOfConst_ne_null htp) _) (fun k d => valid_type_enum_eq P k _ _ d)
      (fun _ h => (Bool.and_eq_true_iff.1 h).2)
  | ref hl _ ih => exact good_wrap ih (fun m strict v => validate_ref_of_lookup env strict m v hl)
  | array _ ih =>
    refine good_node (goodS_jobj_typed P (by simp) [("items", _)] (by simp) ⟨_, valid_array_eq P 1 _ _⟩) (fun k d m strict hv e => ?_)
    obtain ⟨items, rfl, hi⟩ := valid_array_true hv
    obtain ⟨x, hx, ex⟩ := allShort_false _ _ e
    exact ih.sound k x m strict (hi x hx) ex
  | optional _ ih =>
    refine good_node (goodS_anyOf (fun s hs => ?_)) (fun k d m strict hv => ?_)
    · simp only [List.mem_cons, List.mem_nil_iff, or_false] at hs
      rcases hs with rfl | rfl
      · exact ih.gs
      · exact goodS_type P "null"
    · rw [validate_optional]
      obtain ⟨s', hs', hv'⟩ := valid_anyOf_true hv
      simp only [List.mem_cons, List.mem_nil_iff, or_false] at hs'
      rcases hs' with rfl | rfl
      · split
        · exact nofun
        · exact ih.sound k d m strict hv'
      · cases k with
        | zero => exact absurd hv' (valid_zero_ne P _ d)
        | succ k =>
          rw [valid_type_eq] at hv'
          obtain rfl := typeOk_null (Option.some.inj hv')
          exact nofun
  | @anyOf n seen ts ss hlen _ ih =>
    refine good_node (goodS_anyOf (fun s hs => ?_)) (fun k d m strict hv e => ?_)
    · obtain ⟨t, ht⟩ := exists_left_of_mem_zip_right hlen hs
      exact (ih _ ht).gs
    · obtain ⟨s', hs', hv'⟩ := valid_anyOf_true hv
      obtain ⟨t, ht⟩ := exists_left_of_mem_zip_right hlen hs'
      exact (ih _ ht).sound k d m strict hv' ((anyShort_false_iff _ _).1 e t (List.of_mem_zip ht).1)
  | @tuple n seen pre rest ps items hlen _ _ hnone ih ihr =>
    refine good_node (goodS_jobj_typed P (by simp) _ (forall_mem_optEntry (A := []) (by simp) (by simp) (by simp))
        ⟨_, valid_tuple_eq P 1 ps items _ _⟩) (fun k d m strict hv e => ?_)
    obtain ⟨xs, rfl, h1, h2, h3⟩ := valid_tuple_true hv
    rw [hlen] at h2
    rcases Res.andThen_eq_false.1 e with e | ⟨_, e⟩
    · obtain ⟨q, hq, eq⟩ := allShort_false _ _ e
      obtain ⟨i, hi, rfl⟩ := mem_zip_range hq
      have hi2 : i < ps.length := hlen ▸ hi
      have hi3 : i < xs.length := Nat.lt_of_lt_of_le hi h3
      have e3 : xs.getD i .undef = xs[i] := by simp [List.getD, hi3]
      rw [e3] at eq
      exact (ih _ (getElem_mem_zip hi hi2)).sound k _ m strict (h1 _ (getElem_mem_zip hi2 hi3)) eq
    · cases rest with
      | some r =>
        obtain ⟨x, hx, ex⟩ := allShort_false _ _ e
        exact (ihr r rfl).sound k x m strict (h2 x hx) ex
      | none =>
        obtain rfl := hnone rfl
        -- `items: false` admits no surplus item
        have hgt : xs.length > pre.length := of_decide_eq_true ((Bool.not_eq_false' _).mp (Res.ok.inj e))
        obtain ⟨x, hx⟩ := List.exists_mem_of_ne_nil _ fun (e : xs.drop pre.length = []) => by
          rw [List.drop_eq_nil_iff] at e; omega
        exact valid_false_ne_true P k x (h2 x hx)
  | @object n seen props ps opt raw hprops _ hps hopt ih =>
    refine good_node (goodS_jobj_typed P (by simp) _ (forall_mem_optEntry (by simp) (by simp) (by simp))
        ⟨_, valid_object_eq P 1 ps _ _⟩) (fun k d m strict hv e => ?_)
    obtain ⟨dprops, rfl, h1, h2, h3⟩ := valid_object_true hv
    rw [validate_object, isObject_obj, if_neg Bool.false_ne_true] at e
    rcases Res.andThen_eq_false.1 e with e | ⟨_, e⟩
    · obtain ⟨p, hp, ep⟩ := allShort_false _ _ e
      revert ep
      have g := ih p hp
      rw [getProp_obj (hprops p hp).1]
      cases hx : lookupProp dprops p.1 with
      | some x =>
        have hv' := h1 _ ((hps _).2 ⟨p, hp, rfl⟩) x hx
        cases hrr : removeNullUnionBranch 50 (raw p.1) with
        | none => rw [hrr] at hv'; exact g.sound k x m strict hv'
        | some rw' =>
          rw [hrr] at hv'
          obtain ⟨k', hk'⟩ := rnb_sem P 50 _ rw' (g.gs.pure 50) hrr k x true hv'
          exact g.sound k' x m strict (by simpa using hk')
      | none =>
        -- a property the document leaves out is not required by the schema: it is optional for the validator too
        have hnotreq : p.1 ∈ opt := by
          apply Classical.byContradiction
          intro hno
          have := h2 p.1 (List.mem_filter.2 ⟨List.mem_map.2 ⟨p, hp, rfl⟩, not_contains_iff.2 hno⟩)
          rw [hx] at this; cases this
        rw [Option.getD_none]
        rcases (hopt p hp).1 hnotreq with hrr | ho
        · obtain ⟨rw', hrr'⟩ := Option.isSome_iff_exists.1 hrr
          obtain ⟨k', hk'⟩ := rnb_valid_null P (g.gs.pure 50) hrr' g.gs.atNull
          rw [validate_null_undef env n seen p.2 (hprops p hp).2 m strict]
          exact g.sound k' .null m strict hk'
        · unfold isOptionalRT at ho
          split at ho
          · rename_i t' heq
            rw [heq]
            cases m <;> exact nofun
          · cases ho
    · cases strict with
      | false => cases e
      | true =>
        have : List.filter (fun k => !(props.map (·.1)).contains k) (JsVal.obj dprops).ownKeys = [] := by
          rw [List.filter_eq_nil_iff]
          intro key hkey
          obtain ⟨q, hq, rfl⟩ := List.mem_map.1 hkey
          obtain ⟨q', hq', e⟩ := List.any_eq_true.1 (h3 q hq)
          obtain ⟨p, hp, rfl⟩ := (hps q').1 hq'
          exact fun h => not_contains_iff.1 h (beq_iff_eq.1 e ▸ List.mem_map.2 ⟨p, hp, rfl⟩)
        rw [if_pos rfl, this] at e
        cases e

theorem good_core (P : Params) (env : Env) : ∀ n seen rt desc c s c', frag env n seen rt = true →
    schema env flat n rt desc seen c = .ok s c' → Good P env rt s :=
  fun n seen rt desc c s c' hf hs => (frag_schema env n seen rt desc c s c' hf hs).good P

/-- with at least as much fuel as the fragment check used, the validator answers -/
theorem validate_frag_answers (env : Env) : ∀ n seen rt, frag env n seen rt = true →
    ∀ m, n ≤ m → ∀ strict d, validate env strict m rt d ≠ .nofuel
  | n+1, seen, rt, h, m+1, hm, strict, d => by
    rw [validate_succ]
    refine validateStep_rel Res.respects_fuel env (strict' := strict) (vf' := validate env strict m) rt d
      (fun t ht x => ?_) (fun _ _ _ => nofun) (fun _ _ _ => by cases strict <;> exact nofun)
    obtain ⟨seen', h'⟩ := frag_child h ht
    exact validate_frag_answers env n seen' t h' m (Nat.le_of_succ_le_succ hm) strict x

/-- **C02, soundness of the flat schema on the structural fragment.** For every environment and every type of the
fragment (`frag`: keyword types, literals and literal unions, arrays, tuples with rest, closed object types with required
and optional properties, unions, optional wrappers, doc comments, references to named types that do not reach
themselves), every value — a fortiori every JSON document — and every evaluator parameter: if the document is valid
against the schema that flat `schema()` prints (at whatever fuel the evaluator answered), the validator accepts it, in
default mode AND with `disallowExtraProperties` (so it carries no key the type does not declare); and the validator never
throws on such a type. `m` is any validator fuel at least the depth `n` the fragment check explored. -/
theorem schema_sound_frag (P : Params) (env : Env) (n : Nat) (rt : RT) (c : SCtx) (s : JsVal) (c' : SCtx)
    (hf : frag env n [] rt = true) (hs : schema env flat n rt none [] c = .ok s c')
    (k : Nat) (d : JsVal) (hv : valid P k s d = some true) (m : Nat) (hm : n ≤ m) (strict : Bool) :
    validate env strict m rt d = .ok true := by
  cases e : validate env strict m rt d with
  | ok b =>
    cases b with
    | true => rfl
    | false => exact absurd e ((good_core P env n [] rt none c s c' hf hs).sound k d m strict hv)
  | throw cls => exact absurd e (frag_nt env n [] rt hf m strict d cls)
  | nofuel => exact absurd e (validate_frag_answers env n [] rt hf m hm strict d)

/-- the validator of a fragment type never throws -/
theorem validate_frag_no_throw (env : Env) (n : Nat) (rt : RT) (c : SCtx) (s : JsVal) (c' : SCtx)
    (hf : frag env n [] rt = true) (hs : schema env flat n rt none [] c = .ok s c')
    (m : Nat) (strict : Bool) (d : JsVal) (cls : String) : validate env strict m rt d ≠ .throw cls :=
  frag_nt env n [] rt hf m strict d cls

def exEnv : Env := [("Point", .object [("x", .typeof "number"), ("y", .optional (.typeof "number"))] [])]
def exRT : RT := .object [("from", .described "where it starts" (.ref "Point")), ("to", .ref "Point"),
  ("kind", .consts [.str "a", .str "b"]), ("tags", .array (.anyOf [.typeof "string", .nullish "null"])),
  ("pair", .tuple [.typeof "string"] (some (.typeof "boolean")))] []
def exDoc : JsVal := .obj [("from", .obj [("x", .num "1")]), ("to", .obj [("x", .num "2"), ("y", .num "3")]), ("kind", .str "b"),
  ("tags", .arr [.str "t", .null]), ("pair", .arr [.str "p", .bool true])]
def exBad : JsVal := .obj [("from", .obj [("x", .num "1")]), ("to", .str "not a point"), ("kind", .str "b"),
  ("tags", .arr []), ("pair", .arr [.str "p"])]

/-- the hypotheses of `schema_sound_frag` are met by a type with every constructor of the fragment, its schema accepts a
member and rejects a non-member, and the validator does what the theorem says -/
theorem fragment_example :
    frag exEnv 10 [] exRT = true ∧
    (match schema exEnv flat 10 exRT none [] ⟨[], []⟩ with
      | .ok s _ => (valid ⟨[], fun _ => none, fun _ _ => true, fun _ _ => true⟩ 20 s exDoc == some true) &&
          (valid ⟨[], fun _ => none, fun _ _ => true, fun _ _ => true⟩ 20 s exBad == some false)
      | _ => false) = true ∧
    validate exEnv true 10 exRT exDoc = .ok true ∧ validate exEnv false 10 exRT exBad = .ok false := by
  refine ⟨by decide +kernel, by decide +kernel, by decide +kernel, by decide +kernel⟩

end BeffVerif.C02F
