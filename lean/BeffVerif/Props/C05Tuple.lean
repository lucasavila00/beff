import BeffVerif.Props.C05Flat
/-!
# C05 — assignability = inclusion, for a closed tuple against a list type (tuple, tuple with rest, array)

The list side of `Props/C05Flat.lean`: a tuple type without rest element whose positions are inhabited scalar types, on
the left of `extends`, against any list type on the right (a tuple, a tuple with a rest element, an array): `is_subtype`
says *yes* exactly when every value of the left tuple is a value of the right type (`closed_tuple_subtype_iff_inclusion`).

The proof follows the engine: the difference of the two atoms is a diagram of one of two shapes, by the order of the atoms
(`C05Flat.diff_atoms_shape`); `bdd_every_result` walks either shape and ends in the one question "is `a ∧ ¬b` empty"
(`every_shape`); `list_formula_is_empty` combines the single positive list with nothing and asks `list_inhabited`
(`formula_single`), which looks at exactly one length, the left tuple's own, since it has no rest (`inhabitedNot_one`), and
there `fixed_length_list_inhabited` searches a position where `A[i] \ B[i]` is inhabited (`fixed_one`, `fixed_single`, on
top of the scalar theorem). `covered_list_iff` turns length-and-positions into inclusion of value sets (the witness value
takes one inhabitant per position, `exists_memTuple`).
-/
namespace BeffVerif.C05Tuple
open BeffVerif Sem C05 C05Flat Bdd

theorem fixed_nil (n : Nat) (s : List SemType) (c : Ctx) : fixedLenInhabited (n + 1) s [] c = some (true, c) := rfl

/-- position `i` of the left tuple is covered by position `i` of the right one -/
def CoveredAt (s nt : List SemType) (i : Nat) : Prop :=
  ∀ v, hasScalar (s.getD i never) v = true → hasScalar (nt.getD i never) v = true

theorem getD_of {Q : SemType → Prop} (hQ : Q never) (s : List SemType) (hs : ∀ t ∈ s, Q t) (i : Nat) : Q (s.getD i never) := by
  rw [List.getD_eq_getElem?_getD]
  cases hg : s[i]? with
  | none => exact hQ
  | some t => exact hs t (List.mem_of_getElem? hg)

/-- the positional search of `fixed_length_list_inhabited`; `Q i d` is whatever the recursive call on the list narrowed at
`i` to the (inhabited) difference `d` decides -/
theorem fixed_loop (m : Nat) (s nt : List SemType) (rest : List (List SemType)) (c : Ctx) (Q : Nat → SemType → Prop)
    (hs : ∀ t ∈ s, Good t) (hnt : ∀ t ∈ nt, WF t)
    (hemp : ∀ d, Good d → ∃ e, isEmpty m d c = some (e, c) ∧ (e = false ↔ Inh d))
    (idxs : List Nat)
    (hinner : ∀ i ∈ idxs, ∀ d, Good d → Inh d →
      ∃ r, fixedLenInhabited m (s.set i d) rest c = some (r, c) ∧ (r = true ↔ Q i d)) (acc : Bool) :
    ∃ r, idxs.foldlM (fun (acc : Bool) (i : Nat) =>
        if acc then (pure true : SM Bool) else do
          let d ← SM.lift (Sem.diff (s.getD i never) (nt.getD i never))
          if ← isEmpty m d then pure false
          else fixedLenInhabited m (s.set i d) rest) acc c = some (r, c) ∧
      (r = true ↔ acc = true ∨
        ∃ i ∈ idxs, ∃ d, Sem.diff (s.getD i never) (nt.getD i never) = some d ∧ Inh d ∧ Q i d) := by
  refine foldlM_or _ c _ idxs (fun i hi => ?_) acc
  obtain ⟨d, hd, hdg, -⟩ := diff_good _ _ (getD_of good_never s hs i) (getD_of good_never.2 nt hnt i)
  obtain ⟨e, he, heiff⟩ := hemp d hdg
  rw [hd, sm_lift_bind, sm_bind_of he]
  cases e with
  | true =>
    refine ⟨false, rfl, nofun, fun ⟨d', hd', hi', _⟩ => ?_⟩
    cases hd'
    cases heiff.2 hi'
  | false =>
    obtain ⟨r, hr, hiff⟩ := hinner i hi d hdg (heiff.1 rfl)
    refine ⟨r, hr, hiff.trans ⟨fun h => ⟨d, rfl, heiff.1 rfl, h⟩, fun ⟨d', hd', _, h⟩ => ?_⟩⟩
    cases hd'
    exact h

/-- with no further negative list the search succeeds at the first position that is not covered -/
theorem fixed_one (n : Nat) (s nt : List SemType) (c : Ctx)
    (hs : ∀ t ∈ s, Good t) (hnt : ∀ t ∈ nt, WF t) :
    ∀ (idxs : List Nat) (acc : Bool),
    ∃ r, idxs.foldlM (fun (acc : Bool) (i : Nat) =>
        if acc then (pure true : SM Bool) else do
          let d ← SM.lift (Sem.diff (s.getD i never) (nt.getD i never))
          if ← isEmpty (n + 2) d then pure false
          else fixedLenInhabited (n + 2) (s.set i d) []) acc c = some (r, c) ∧
      (r = true ↔ acc = true ∨ ∃ i ∈ idxs, ¬ CoveredAt s nt i) := by
  intro idxs acc
  obtain ⟨r, hr, hiff⟩ := fixed_loop (n + 2) s nt [] c (fun _ _ => True) hs hnt (fun d => isEmpty_good (n + 1) d c) idxs
    (fun i _ d _ _ => ⟨true, fixed_nil (n + 1) _ c, iff_of_true rfl trivial⟩) acc
  refine ⟨r, hr, hiff.trans (or_congr_right (exists_congr fun i => and_congr_right fun _ => ?_))⟩
  obtain ⟨d, hd, -, hdv⟩ := diff_good _ _ (getD_of good_never s hs i) (getD_of good_never.2 nt hnt i)
  simp only [hd, Option.some.injEq, and_true, exists_eq_left', inh_diff_iff hdv, CoveredAt]

/-- `fixed_length_list_inhabited` against one negative list (`fixed_one` is its inner loop) -/
theorem fixed_single (n : Nat) (s nt : List SemType) (c : Ctx) (hs : ∀ t ∈ s, Good t) (hnt : ∀ t ∈ nt, WF t) :
    ∃ r, fixedLenInhabited (n + 3) s [nt] c = some (r, c) ∧ (r = true ↔ ∃ i, i < s.length ∧ ¬ CoveredAt s nt i) := by
  obtain ⟨r, hr, hiff⟩ := fixed_one n s nt c hs hnt (List.range s.length) false
  refine ⟨r, hr, ?_⟩
  rw [hiff]
  simp only [Bool.false_eq_true, false_or, List.mem_range]

theorem range_drop (m : Nat) : (List.range (m + 1)).drop m = [m] := by
  rw [List.range_succ]
  simp

/-- the list the engine compares position by position: the negative tuple read at the positions `0 … len-1` -/
def readAt (B : ListAtomic) (len : Nat) : List SemType :=
  (List.range len).map fun i => if i < B.pre.length then B.pre.getD i never else B.items

theorem readAt_getD (B : ListAtomic) (len i : Nat) (hi : i < len) :
    (readAt B len).getD i never = (if i < B.pre.length then B.pre.getD i never else B.items) := by
  unfold readAt
  rw [List.getD_eq_getElem?_getD, List.getElem?_map, List.getElem?_range hi]
  simp

theorem readAt_wf (B : ListAtomic) (len : Nat) (hB : ∀ t ∈ B.pre, WF t) (hi : WF B.items) : ∀ t ∈ readAt B len, WF t := by
  intro t ht
  unfold readAt at ht
  obtain ⟨i, _, e⟩ := List.mem_map.1 ht
  subst e
  split
  · exact getD_of good_never.2 B.pre hB i
  · exact hi

/-- does the negative list type have values of length `len` at all -/
def applicable (B : ListAtomic) (len : Nat) : Bool :=
  B.pre.length == len || (B.pre.length < len && !B.items.isNever)

theorem applicable_iff (B : ListAtomic) (len : Nat) :
    applicable B len = true ↔ B.pre.length = len ∨ (B.pre.length < len ∧ B.items.isNever = false) := by
  simp only [applicable, Bool.or_eq_true, beq_iff_eq, Bool.and_eq_true, decide_eq_true_eq, Bool.not_eq_true']

/-- `!list_inhabited` for a closed positive tuple -/
theorem inhabitedNot_closed (n : Nat) (pre : List SemType) (negs : List ListAtomic) (c : Ctx) (r : Bool) (hne : negs ≠ [])
    (h : fixedLenInhabited n pre ((negs.filter (applicable · pre.length)).map (readAt · pre.length)) c = some (r, c)) :
    listInhabitedNot (n + 1) pre never negs c = some (!r, c) := by
  cases negs with
  | nil => exact absurd rfl hne
  | cons B negs =>
    -- the rest type is `never`, so the lengths to look at are those from `pre.length` to `pre.length`
    show ((List.foldlM _ false (List.drop pre.length (List.range (pre.length + 1))) : SM Bool) >>= _) c = _
    rw [range_drop, List.foldlM_cons, if_neg Bool.false_ne_true, Nat.sub_self, List.replicate_zero, List.append_nil]
    exact sm_step (sm_step h rfl) rfl

/-- … and ONE negative list type (tuple, tuple with rest, array) -/
theorem inhabitedNot_one (n : Nat) (pre : List SemType) (B : ListAtomic) (c : Ctx)
    (hpre : ∀ t ∈ pre, Good t) (hB : ∀ t ∈ B.pre, WF t) (hBi : WF B.items) :
    ∃ r, listInhabitedNot (n + 4) pre never [B] c = some (r, c) ∧
      (r = true ↔ applicable B pre.length = true ∧ ∀ i, i < pre.length → CoveredAt pre (readAt B pre.length) i) := by
  cases hb : applicable B pre.length with
  | false =>
    refine ⟨false, inhabitedNot_closed (n + 3) pre [B] c true (List.cons_ne_nil _ _) ?_,
      iff_of_false Bool.false_ne_true fun h => Bool.false_ne_true h.1⟩
    rw [List.filter_cons_of_neg (p := (applicable · pre.length)) (hb ▸ Bool.false_ne_true)]
    exact fixed_nil (n + 2) pre c
  | true =>
    obtain ⟨r, hr, hiff⟩ := fixed_single n pre (readAt B pre.length) c hpre (readAt_wf B _ hB hBi)
    refine ⟨!r, inhabitedNot_closed (n + 3) pre [B] c r (List.cons_ne_nil _ _) ?_, ?_⟩
    · rw [List.filter_cons_of_pos (p := (applicable · pre.length)) hb]
      exact hr
    · rw [Bool.not_eq_true', ← Bool.not_eq_true, hiff]
      simp only [true_and, not_exists, not_and, Classical.not_not]

/-- `list_formula_is_empty` for one positive closed tuple and one negative list type -/
theorem formula_single (n : Nat) (a b : Atom) (A B : ListAtomic) (c : Ctx)
    (hA : c.lists[a.idx]? = some (some A)) (hB : c.lists[b.idx]? = some (some B))
    (hAp : ∀ t ∈ A.pre, Good t ∧ Inh t) (hAi : A.items = never) (hBp : ∀ t ∈ B.pre, WF t) (hBi : WF B.items) :
    ∃ r, listFormulaIsEmpty (n + 5) [a] [b] c = some (r, c) ∧
      (r = true ↔ applicable B A.pre.length = true ∧ ∀ i, i < A.pre.length → CoveredAt A.pre (readAt B A.pre.length) i) := by
  obtain ⟨r, hr, hiff⟩ := inhabitedNot_one n A.pre B c (fun t ht => (hAp t ht).1) hBp hBi
  refine ⟨r, ?_, hiff⟩
  -- the negative atom, the positive atom, nothing to combine it with, no empty position
  refine sm_step (mapM_single (getList_of hB)) (sm_step (getList_of hA) (sm_step (a := some (A.pre, A.items)) rfl
    (sm_step (anyEmpty_false (n + 3) (fun t => t) A.pre c hAp) ?_)))
  rw [hAi]
  exact hr

theorem every_ff (m : Nat) (pos neg : List Atom) (c : Ctx) : listEvery (m + 1) .ff pos neg c = some (true, c) := rfl

theorem every_node (k : Nat) (a : Atom) (l m r : Bdd) (pos neg : List Atom) (c : Ctx) (rr rm rl : Bool)
    (hr : listEvery k r pos (a :: neg) c = some (rr, c)) (hm : listEvery k m pos neg c = some (rm, c))
    (hl : listEvery k l (a :: pos) neg c = some (rl, c)) :
    listEvery (k + 1) (node a l m r) pos neg c = some (rr && rm && rl, c) :=
  sm_step hr (sm_step hm (sm_step hl rfl))

/-- walking either shape of the diagram ends in one question: is `a ∧ ¬b` empty -/
theorem every_shape (k : Nat) (a b : Atom) (D : Bdd) (c : Ctx) (r : Bool)
    (hD : D = node a (node b ff ff tt) ff ff ∨ D = node b ff ff (node a tt ff ff))
    (hf : listFormulaIsEmpty k [a] [b] c = some (r, c)) :
    listEvery (k + 3) D [] [] c = some (r, c) := by
  have htt : listEvery (k + 1) .tt [a] [b] c = some (r, c) := hf
  have e : (true && true && (r && true && true)) = r := by cases r <;> rfl
  have e' : (true && true && r && true && true) = r := by cases r <;> rfl
  rcases hD with rfl | rfl
  · exact e ▸ every_node _ a _ _ _ [] [] c _ _ _ (every_ff _ _ _ c) (every_ff _ _ _ c)
      (every_node _ b _ _ _ [a] [] c _ _ _ htt (every_ff _ _ _ c) (every_ff _ _ _ c))
  · exact e' ▸ every_node _ b _ _ _ [] [] c _ _ _
      (every_node _ a _ _ _ [] [b] c _ _ _ (every_ff _ _ _ c) (every_ff _ _ _ c) htt) (every_ff _ _ _ c) (every_ff _ _ _ c)

def lstVec (D : Bdd) : SemType := { never with list := .some D }

theorem diff_lstVec (a b D : Bdd) (h : Bdd.diff fuelB a b = some D) : Sem.diff (lstVec a) (lstVec b) = some (lstVec D) := by
  unfold Sem.diff
  dsimp only [lstVec, never, subDiff, bddDiff]
  rw [h]
  rfl

theorem diff_list (i j : Nat) (h : i ≠ j) :
    ∃ D, Sem.diff (listFromIdx i) (listFromIdx j) = some (lstVec D) ∧
      (D = node ⟨listKind, i⟩ (node ⟨listKind, j⟩ ff ff tt) ff ff ∨ D = node ⟨listKind, j⟩ ff ff (node ⟨listKind, i⟩ tt ff ff)) := by
  -- 196 + 4 = `fuelB`, the fuel `Sem.diff` gives `Bdd.diff`
  rcases diff_atoms_shape ⟨listKind, i⟩ ⟨listKind, j⟩ (fun e => h (Atom.mk.inj e).2) 196 with hD | hD
  · exact ⟨_, diff_lstVec _ _ _ hD, Or.inl rfl⟩
  · exact ⟨_, diff_lstVec _ _ _ hD, Or.inr rfl⟩

/-- `list_is_empty` with an empty memo answers what `bdd_every_result` answers -/
theorem listIsEmpty_fresh (m : Nat) (D : Bdd) (c : Ctx) (S : Prop) (hmemo : c.memoL = [])
    (hev : ∀ c1 : Ctx, c1.lists = c.lists → ∃ r, listEvery m D [] [] c1 = some (r, c1) ∧ (r = true ↔ S)) :
    ∃ r c', listIsEmpty (m + 1) D c = some (r, c') ∧ (r = true ↔ S) := by
  obtain ⟨r, hr, hiff⟩ := hev { c with memoL := c.memoL ++ [(D, none)] } rfl
  refine ⟨r, { c with memoL := (c.memoL ++ [(D, none)]).map fun (p : Bdd × Option Bool) => if p.1 == D then (D, some r) else p }, ?_, hiff⟩
  refine sm_step (m := SM.get) (a := c) rfl ?_
  rw [show c.memoL.find? (fun p => p.1 == D) = none by rw [hmemo]; rfl]
  exact sm_step (m := SM.modify _) (a := ()) rfl (sm_step hr rfl)

theorem isEmpty_lstVec (m : Nat) (D : Bdd) (c c' : Ctx) (r : Bool) (h : listIsEmpty m D c = some (r, c')) :
    isEmpty (m + 1) (lstVec D) c = some (r, c') := h

/-- a value of a closed tuple type: as many elements as positions, each within its type -/
def memTuple (P : List SemType) (vs : List Scalar) : Prop :=
  vs.length = P.length ∧ ∀ k, k < P.length → hasScalar (P.getD k never) (vs.getD k .absent) = true

/-- a value of a list type (tuple, tuple with rest, array): at least the fixed positions, each element within the type of its
position, the rest type beyond them (`never` for a closed tuple: no further element) -/
def memList (B : ListAtomic) (vs : List Scalar) : Prop :=
  B.pre.length ≤ vs.length ∧
    ∀ k, k < vs.length → hasScalar (if k < B.pre.length then B.pre.getD k never else B.items) (vs.getD k .absent) = true

theorem exists_memTuple : ∀ (P : List SemType), (∀ t ∈ P, Inh t) → ∃ vs, memTuple P vs
  | [], _ => ⟨[], rfl, nofun⟩
  | t :: ts, h => by
    obtain ⟨v, hv⟩ := h t List.mem_cons_self
    obtain ⟨vs, hl, hvs⟩ := exists_memTuple ts fun t' ht' => h t' (List.mem_cons_of_mem _ ht')
    refine ⟨v :: vs, congrArg (· + 1) hl, fun k hk => ?_⟩
    cases k with
    | zero => exact hv
    | succ k => exact hvs k (Nat.lt_of_succ_lt_succ hk)

theorem getD_set {α : Type} (s : List α) (i k : Nat) (d x : α) (hi : i < s.length) :
    (s.set i x).getD k d = if k = i then x else s.getD k d := by
  rw [List.getD_eq_getElem?_getD, List.getD_eq_getElem?_getD, List.getElem?_set]
  by_cases e : i = k
  · subst e; simp [hi]
  · have : ¬ k = i := fun h => e h.symm
    simp [e, this]

theorem covered_list_iff (P : List SemType) (B : ListAtomic) (hP : ∀ t ∈ P, Inh t) :
    (applicable B P.length = true ∧ ∀ i, i < P.length → CoveredAt P (readAt B P.length) i) ↔
      ∀ vs, memTuple P vs → memList B vs := by
  constructor
  · rintro ⟨ha, hc⟩ vs ⟨hlen, hv⟩
    have hle : B.pre.length ≤ P.length :=
      ((applicable_iff B _).1 ha).elim Nat.le_of_eq fun h => Nat.le_of_lt h.1
    refine ⟨hlen ▸ hle, fun k hk => ?_⟩
    have hk' : k < P.length := hlen ▸ hk
    have := hc k hk' _ (hv k hk')
    rwa [readAt_getD B _ k hk'] at this
  · intro h
    obtain ⟨w, hwl, hwk⟩ := exists_memTuple P hP
    -- the values of `P` that differ from `w` at one position
    have hset : ∀ i v, i < P.length → hasScalar (P.getD i never) v = true →
        hasScalar (if i < B.pre.length then B.pre.getD i never else B.items) v = true := by
      intro i v hi hv
      have hmem : memTuple P (w.set i v) := by
        refine ⟨by rw [List.length_set, hwl], fun k hk => ?_⟩
        rw [getD_set w i k _ v (hwl ▸ hi)]
        by_cases e : k = i
        · rw [if_pos e]; exact e ▸ hv
        · rw [if_neg e]; exact hwk k hk
      have := (h _ hmem).2 i (by rw [List.length_set, hwl]; exact hi)
      rwa [getD_set w i i _ v (hwl ▸ hi), if_pos rfl] at this
    have hle : B.pre.length ≤ P.length := hwl ▸ (h w ⟨hwl, hwk⟩).1
    refine ⟨?_, fun i hi v hv => by rw [readAt_getD B _ i hi]; exact hset i v hi hv⟩
    rw [applicable_iff]
    by_cases e : B.pre.length = P.length
    · exact Or.inl e
    · have hlt : B.pre.length < P.length := Nat.lt_of_le_of_ne hle e
      refine Or.inr ⟨hlt, Bool.eq_false_iff.2 fun hn => ?_⟩
      have := hset _ _ hlt (hwk _ hlt)
      rw [if_neg (Nat.lt_irrefl _), of_decide_eq_true hn, hasScalar_never] at this
      cases this

/-- **A closed tuple against a list type: assignability = inclusion.** `A` a tuple type without rest element whose positions
are inhabited scalar types, `B` any list type — a tuple, a tuple with a rest element, an array — with well-formed element
types; `i ≠ j` their atoms in a context with an empty list memo. For every fuel ≥ 10 `is_subtype` answers, and the answer is
*yes* exactly when every value of `A` is a value of `B`. -/
theorem closed_tuple_subtype_iff_inclusion (n i j : Nat) (A B : ListAtomic) (c : Ctx)
    (hij : i ≠ j) (hAi : c.lists[i]? = some (some A)) (hBj : c.lists[j]? = some (some B))
    (hAp : ∀ t ∈ A.pre, Good t ∧ Inh t) (hAx : A.items = never)
    (hBp : ∀ t ∈ B.pre, WF t) (hBx : WF B.items) (hmemo : c.memoL = []) :
    ∃ r c', isSubtype (n + 10) (listFromIdx i) (listFromIdx j) c = some (r, c') ∧
      (r = true ↔ ∀ vs, memTuple A.pre vs → memList B vs) := by
  obtain ⟨D, hdiff, hshape⟩ := diff_list i j hij
  obtain ⟨r, c', hle, hiff⟩ := listIsEmpty_fresh (n + 8) D c _ hmemo fun c1 hc1 => by
    obtain ⟨r, hr, hiff⟩ := formula_single n ⟨listKind, i⟩ ⟨listKind, j⟩ A B c1 (hc1 ▸ hAi) (hc1 ▸ hBj) hAp hAx hBp hBx
    exact ⟨r, every_shape (n + 5) _ _ D c1 r hshape hr, hiff⟩
  refine ⟨r, c', ?_, hiff.trans (covered_list_iff A.pre B fun t ht => (hAp t ht).2)⟩
  unfold isSubtype
  rw [hdiff, sm_lift_bind]
  exact isEmpty_lstVec (n + 9) D c c' r hle

/-- `[string, 1 | 2]` (atom 0), `[string, number]` (atom 1), `[string]` (atom 2) -/
def exCtx : Ctx := { lists := [some ⟨[{ never with str := .all }, { never with num := .some ⟨true, ["1", "2"]⟩ }], never⟩,
  some ⟨[{ never with str := .all }, { never with num := .all }], never⟩, some ⟨[{ never with str := .all }], never⟩] }
example : ((isSubtype 10 (listFromIdx 0) (listFromIdx 1) exCtx).map (·.1)) = some true := by decide +kernel
example : ((isSubtype 10 (listFromIdx 1) (listFromIdx 0) exCtx).map (·.1)) = some false := by decide +kernel
example : ((isSubtype 10 (listFromIdx 0) (listFromIdx 2) exCtx).map (·.1)) = some false := by decide +kernel
/-- against an array and a tuple with rest: `[string, 1 | 2] extends (string | number)[]` — yes; `extends [string, ...string[]]` — no -/
def exCtx2 : Ctx := { lists := [some ⟨[{ never with str := .all }, { never with num := .some ⟨true, ["1", "2"]⟩ }], never⟩,
  some ⟨[], { never with str := .all, num := .all }⟩, some ⟨[{ never with str := .all }], { never with str := .all }⟩] }
example : ((isSubtype 10 (listFromIdx 0) (listFromIdx 1) exCtx2).map (·.1)) = some true := by decide +kernel
example : ((isSubtype 10 (listFromIdx 0) (listFromIdx 2) exCtx2).map (·.1)) = some false := by decide +kernel

end BeffVerif.C05Tuple
