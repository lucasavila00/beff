import BeffVerif.Model.Schema
/-!
# `schema`, one layer at a time

`SRes.bind` is the sequencing that `schema` and its combinators spell out as a three-way `match` at every step; the equations
here restate each of them with it, so that a print that returned is taken apart by `SRes.bind_eq_ok`.

`layer o go desc rt` is what `schema` does at a runtype that is neither a description, a named type nor a discriminated union,
with `go` for the prints of the children (`schema_plain`). `layer_eq`: it is `seqS go` over the children in the order they are
printed (`order`), followed by a pure step (`build`; `none` is a throw). So a statement about `schema` follows from one about
`seqS` for an arbitrary `go` and a pure one about `build`, by induction on the fuel over the four cases of `layer_cases`.
-/
namespace BeffVerif.RT
open JsVal

namespace SRes

def bind {α β : Type} (r : SRes α) (k : α → SCtx → SRes β) : SRes β :=
  match r with
  | .ok a c => k a c
  | .throw e => .throw e
  | .nofuel => .nofuel

theorem bind_eq_ok {α β : Type} {r : SRes α} {k : α → SCtx → SRes β} {b : β} {c' : SCtx} (h : r.bind k = .ok b c') :
    ∃ a c, r = .ok a c ∧ k a c = .ok b c' := by
  cases r with
  | ok a c => exact ⟨a, c, rfl, h⟩
  | throw e => cases h
  | nofuel => cases h

theorem ok_bind {α β : Type} (a : α) (c : SCtx) (k : α → SCtx → SRes β) : (SRes.ok a c).bind k = k a c := rfl

theorem bind_assoc {α β γ : Type} (r : SRes α) (k : α → SCtx → SRes β) (k' : β → SCtx → SRes γ) :
    (r.bind k).bind k' = r.bind fun a c => (k a c).bind k' := by
  cases r <;> rfl

/-- Irreducible, so that a statement about `ofOption x c` with `x` to be found applies to a computation that unfolds to one
(the unifier would otherwise unfold both sides to a `match` stuck on the unknown `x`). -/
@[irreducible] def ofOption {α : Type} (x : Option α) (c : SCtx) : SRes α :=
  match x with
  | some a => .ok a c
  | none => .throw c

theorem ofOption_some {α : Type} (a : α) (c : SCtx) : ofOption (some a) c = .ok a c := by unfold ofOption; rfl

theorem ofOption_none {α : Type} (c : SCtx) : ofOption (none : Option α) c = .throw c := by unfold ofOption; rfl

theorem ofOption_eq_ok {α : Type} {x : Option α} {c : SCtx} {a : α} {c' : SCtx} (h : ofOption x c = .ok a c') :
    x = some a ∧ c' = c := by
  cases x with
  | some b => rw [ofOption_some] at h; cases h; exact ⟨rfl, rfl⟩
  | none => rw [ofOption_none] at h; cases h

end SRes

section
variable {go : RT → SCtx → SRes JsVal}

theorem seqS_cons (t : RT) (ts : List RT) (c : SCtx) :
    seqS go (t :: ts) c = (go t c).bind fun s c1 => (seqS go ts c1).bind fun ss c2 => .ok (s :: ss) c2 := by
  rw [seqS]
  cases go t c with
  | ok s c1 => dsimp only [SRes.bind]; cases seqS go ts c1 <;> rfl
  | _ => rfl

theorem propsS_cons (p : String × RT) (rest : List (String × RT)) (ps : List (String × JsVal)) (opt : List String) (c : SCtx) :
    propsS go (p :: rest) (ps, opt) c = (go p.2 c).bind fun raw c1 =>
      match removeNullUnionBranch 50 raw with
      | some rw => propsS go rest (setProp ps p.1 rw, opt ++ [p.1]) c1
      | none => propsS go rest (setProp ps p.1 raw, if isOptionalRT p.2 then opt ++ [p.1] else opt) c1 := by
  rw [propsS]
  cases go p.2 c <;> rfl

theorem indexS_cons (p : RT × RT) (rest : List (RT × RT)) (c : SCtx) :
    indexS go (p :: rest) c = (go p.1 c).bind fun ks c1 => (go p.2 c1).bind fun vs c2 => (indexS go rest c2).bind fun ss c3 =>
      .ok (jobj [("type", .str "object"), ("additionalProperties", vs), ("propertyNames", ks)] :: ss) c3 := by
  rw [indexS]
  cases go p.1 c with
  | ok ks c1 =>
    dsimp only [SRes.bind]
    cases go p.2 c1 with
    | ok vs c2 => dsimp only; cases indexS go rest c2 <;> rfl
    | _ => rfl
  | _ => rfl

theorem defineS_eq (name : String) (target : RT) (c : SCtx) :
    defineS go name target c = if c.has name || c.inProgress.contains name then .ok () c else
      (go target { c with inProgress := c.inProgress ++ [name] }).bind fun body c2 => .ok () (c2.store name body) := by
  rw [defineS]
  split
  · rfl
  · cases go target { c with inProgress := c.inProgress ++ [name] } <;> rfl

theorem variantsS_cons {tgt : String × RT → String × Option RT} {template : String} (kv : String × RT)
    (rest : List (String × RT)) (c : SCtx) :
    variantsS go tgt template (kv :: rest) c = match (tgt kv).2 with
      | none => .throw c
      | some target => (defineS go (tgt kv).1 target c).bind fun _ c1 =>
          (variantsS go tgt template rest c1).bind fun refs c2 => .ok ((kv.1, getRef template (tgt kv).1) :: refs) c2 := by
  rw [variantsS]
  obtain ⟨name, target⟩ := tgt kv
  cases target with
  | none => rfl
  | some target =>
    dsimp only
    cases defineS go name target c with
    | ok _ c1 => dsimp only [SRes.bind]; cases variantsS go tgt template rest c1 <;> rfl
    | _ => rfl

end

/-- the schema of a runtype without children, where JSON Schema has one -/
def leaf (o : SOpts) : RT → Option JsVal
  | .typeof t => some (jobj [("type", .str t)])
  | .any => some (jobj [])
  | .nullish _ => some (jobj [("type", .str "null")])
  | .never => some (jobj [("not", jobj [])])
  | .const v =>
    some (match (if o.contextual then typeofOfConst v else none) with
      | some tp => jobj [("type", .str tp), ("enum", .arr [v])]
      | none => jobj [("const", if v.isNullish then .null else v)])
  | .regex tpl _ => some (jobj [("type", .str "string"), ("pattern", .str (regexSource tpl))])
  | .strfmt fs => some (jobj [("type", .str "string"), ("format", .str (" and ".intercalate fs))])
  | .numfmt fs => some (jobj [("type", .str "number"), ("format", .str (" and ".intercalate fs))])
  | .consts vs =>
    some (match (if vs.length > 0 && vs.all (fun v => jsTypeof v == jsTypeof (vs.headD .null)) then typeofOfConst (vs.headD .null)
        else none) with
      | some tp => jobj [("type", .str tp), ("enum", .arr vs)]
      | none => jobj [("enum", .arr vs)])
  | _ => none

def tupleSchema (ps : List JsVal) (items : JsVal) (minItems : Nat) : JsVal :=
  jobj ([("type", JsVal.str "array")] ++ (if ps.length > 0 then [("prefixItems", JsVal.arr ps)] else []) ++
    [("items", items), ("minItems", JsVal.num (natToCanon minItems))])

/-- `ixv`: the runtype of the values of the first index signature; `ps`, `ixs`: the schemas of the properties and of the
index signatures -/
def objectSchema (required : List String) (ixv : RT) (ps : List (String × JsVal)) (ixs : List JsVal) : JsVal :=
  let base : List (String × JsVal) := [("type", .str "object"), ("properties", .obj ps)] ++
    (if required.length > 0 then [("required", JsVal.arr (required.map JsVal.str))] else [])
  if ixs.length == 0 then jobj (base ++ [("additionalProperties", .bool false)])
  else if ps.length == 0 && ixs.length == 1 then
    match stripDesc ixv, ixs.headD .null with
    | .never, _ => jobj [("type", .str "object"), ("additionalProperties", .bool false)]
    | .any, .obj kvs => .obj (setProp kvs "additionalProperties" (.bool true))
    | _, s => s
  else jobj [("allOf", .arr (jobj base :: ixs))]

def layer (o : SOpts) (go : RT → SCtx → SRes JsVal) (desc : Option String) (rt : RT) (c : SCtx) : SRes JsVal :=
  match rt with
  | .tuple pre rest =>
    (seqS go pre c).bind fun ps c1 => (match rest with | some r => go r c1 | none => .ok (.bool false) c1).bind fun items c2 =>
      .ok (annotate desc (tupleSchema ps items pre.length)) c2
  | .allOf ts => (seqS go ts c).bind fun ss c1 => .ok (annotate desc ((tryMergeAllOf ss).getD (jobj [("allOf", .arr ss)]))) c1
  | .anyOf ts => (seqS go ts c).bind fun ss c1 => .ok (annotate desc (jobj [("anyOf", .arr ss)])) c1
  | .array t => (go t c).bind fun s c1 => .ok (annotate desc (jobj [("type", .str "array"), ("items", s)])) c1
  | .optional t => (go t c).bind fun s c1 => .ok (jobj [("anyOf", .arr [s, jobj [("type", .str "null")]])]) c1
  | .object props ix =>
    (propsS go props ([], []) c).bind fun pso c1 => (indexS go ix c1).bind fun ixs c2 =>
      .ok (annotate desc (objectSchema ((props.map (·.1)).filter (fun k => !pso.2.contains k)) (ix.headD (.any, .any)).2 pso.1 ixs)) c2
  | rt => SRes.ofOption ((leaf o rt).map (annotate desc)) c

def plain : RT → Bool
  | .described _ _ | .ref _ | .disc _ _ _ _ => false
  | _ => true

theorem layer_cases (rt : RT) : (∃ d t, rt = .described d t) ∨ (∃ name, rt = .ref name) ∨
    (∃ schemas key mp sm, rt = .disc schemas key mp sm) ∨ plain rt = true := by
  cases rt with
  | described d t => exact .inl ⟨d, t, rfl⟩
  | ref name => exact .inr (.inl ⟨name, rfl⟩)
  | disc schemas key mp sm => exact .inr (.inr (.inl ⟨schemas, key, mp, sm, rfl⟩))
  | _ => exact .inr (.inr (.inr rfl))

section
variable {go : RT → SCtx → SRes JsVal}

theorem seqS_nil (c : SCtx) : seqS go [] c = .ok [] c := rfl

theorem seqS_split {β : Type} (xs more : List RT) (k : List JsVal → List JsVal → SCtx → SRes β) (c : SCtx) :
    (seqS go (xs ++ more) c).bind (fun vals c2 => k (vals.take xs.length) (vals.drop xs.length) c2) =
      (seqS go xs c).bind fun a c1 => (seqS go more c1).bind fun ms c2 => k a ms c2 := by
  induction xs generalizing k c with
  | nil => rfl
  | cons x xs ih =>
    simp only [List.cons_append, seqS_cons, SRes.bind_assoc, SRes.ok_bind, List.length_cons, List.take_succ_cons,
      List.drop_succ_cons]
    congr
    funext s c1
    exact ih (fun a ms => k (s :: a) ms) c1

theorem seqS_spec : ∀ (ts : List RT) (c : SCtx) (ss : List JsVal) (c1 : SCtx),
    seqS go ts c = .ok ss c1 → ss.length = ts.length ∧ ∀ p ∈ ts.zip ss, ∃ c' c'', go p.1 c' = .ok p.2 c''
  | [], _, _, _, h => by cases h; exact ⟨rfl, fun _ hp => nomatch hp⟩
  | t :: ts, c, _, _, h => by
    rw [seqS_cons] at h
    obtain ⟨s, c', hg, h⟩ := SRes.bind_eq_ok h
    obtain ⟨ss', c'', hr, h⟩ := SRes.bind_eq_ok h
    cases h
    obtain ⟨hl, hz⟩ := seqS_spec ts c' ss' _ hr
    exact ⟨congrArg (· + 1) hl, List.forall_mem_cons.2 ⟨⟨c, c', hg⟩, hz⟩⟩

theorem seqS_each {Q : RT → Prop} (hq : ∀ t c s c', go t c = .ok s c' → Q t) (ts : List RT) :
    ∀ (c : SCtx) (ss : List JsVal) (c' : SCtx), seqS go ts c = .ok ss c' → ∀ t ∈ ts, Q t := by
  induction ts with
  | nil => exact fun _ _ _ _ => List.forall_mem_nil _
  | cons x xs ih =>
    intro c ss c' h
    rw [seqS_cons] at h
    obtain ⟨s, c1, e1, h⟩ := SRes.bind_eq_ok h
    obtain ⟨ss, c2, e2, _⟩ := SRes.bind_eq_ok h
    exact List.forall_mem_cons.2 ⟨hq x c s c1 e1, ih c1 ss c2 e2⟩

def propStep (acc : List (String × JsVal) × List String) (pr : (String × RT) × JsVal) : List (String × JsVal) × List String :=
  match removeNullUnionBranch 50 pr.2 with
  | some rw => (setProp acc.1 pr.1.1 rw, acc.2 ++ [pr.1.1])
  | none => (setProp acc.1 pr.1.1 pr.2, if isOptionalRT pr.1.2 then acc.2 ++ [pr.1.1] else acc.2)

theorem propsS_seq (props : List (String × RT)) (acc : List (String × JsVal) × List String) (c : SCtx) :
    propsS go props acc c = (seqS go (props.map (·.2)) c).bind fun raws c1 => .ok ((props.zip raws).foldl propStep acc) c1 := by
  induction props generalizing acc c with
  | nil => rfl
  | cons p rest ih =>
    obtain ⟨ps, opt⟩ := acc
    simp only [propsS_cons, List.map_cons, seqS_cons, SRes.bind_assoc, SRes.ok_bind, List.zip_cons_cons, List.foldl_cons]
    congr
    funext raw c1
    rw [← ih]
    unfold propStep
    cases removeNullUnionBranch 50 raw <;> rfl

def pairUp : List JsVal → List JsVal
  | ks :: vs :: rest => jobj [("type", .str "object"), ("additionalProperties", vs), ("propertyNames", ks)] :: pairUp rest
  | _ => []

theorem indexS_seq (ix : List (RT × RT)) (c : SCtx) :
    indexS go ix c = (seqS go (ix.flatMap fun p => [p.1, p.2]) c).bind fun vals c1 => .ok (pairUp vals) c1 := by
  induction ix generalizing c with
  | nil => rfl
  | cons p rest ih =>
    simp only [indexS_cons, List.flatMap_cons, List.cons_append, List.nil_append, seqS_cons, SRes.bind_assoc, SRes.ok_bind,
      ih, pairUp]

/-- the children of a plain node, in the order `layer` prints them -/
def order : RT → List RT
  | .tuple pre rest => pre ++ rest.toList
  | .allOf ts | .anyOf ts => ts
  | .array t | .optional t => [t]
  | .object props ix => props.map (·.2) ++ ix.flatMap fun p => [p.1, p.2]
  | _ => []

def build (o : SOpts) (desc : Option String) (rt : RT) (vals : List JsVal) : Option JsVal :=
  match rt with
  | .tuple pre rest =>
    some (annotate desc (tupleSchema (vals.take pre.length)
      (if rest.isSome then (vals.drop pre.length).headD .null else .bool false) pre.length))
  | .allOf _ => some (annotate desc ((tryMergeAllOf vals).getD (jobj [("allOf", .arr vals)])))
  | .anyOf _ => some (annotate desc (jobj [("anyOf", .arr vals)]))
  | .array _ => some (annotate desc (jobj [("type", .str "array"), ("items", vals.headD .null)]))
  | .optional _ => some (jobj [("anyOf", .arr [vals.headD .null, jobj [("type", .str "null")]])])
  | .object props ix =>
    let pso := (props.zip (vals.take props.length)).foldl propStep ([], [])
    some (annotate desc (objectSchema ((props.map (·.1)).filter (fun k => !pso.2.contains k)) (ix.headD (.any, .any)).2 pso.1
      (pairUp (vals.drop props.length))))
  | rt => (leaf o rt).map (annotate desc)

theorem layer_eq (o : SOpts) (desc : Option String) (rt : RT) (c : SCtx) :
    layer o go desc rt c = (seqS go (order rt) c).bind fun vals c1 => SRes.ofOption (build o desc rt vals) c1 := by
  cases rt with
  | tuple pre rest =>
    dsimp only [layer, order, build]
    cases rest with
    | none =>
      simp only [Option.toList_none, Option.isSome_none, SRes.ofOption_some]
      exact (seqS_split pre [] (fun a _ c2 => .ok (annotate desc (tupleSchema a (.bool false) pre.length)) c2) c).symm
    | some r =>
      simp only [Option.toList_some, Option.isSome_some, SRes.ofOption_some, if_true]
      rw [seqS_split pre [r] (fun a ms c2 => .ok (annotate desc (tupleSchema a (ms.headD .null) pre.length)) c2) c]
      simp only [seqS_cons, seqS_nil, SRes.bind_assoc, SRes.ok_bind, List.headD_cons]
  | allOf ts | anyOf ts => dsimp only [layer, order, build]; simp only [SRes.ofOption_some]
  | array t | optional t =>
    dsimp only [layer, order, build]
    simp only [SRes.ofOption_some, seqS_cons, seqS_nil, SRes.bind_assoc, SRes.ok_bind, List.headD_cons]
  | object props ix =>
    dsimp only [layer, order, build]
    simp only [SRes.ofOption_some, propsS_seq, indexS_seq, SRes.bind_assoc, SRes.ok_bind]
    rw [← seqS_split, List.length_map]
  | _ => rfl

theorem mem_flatMap_pair {t : RT} {ix : List (RT × RT)} :
    t ∈ ix.flatMap (fun p => [p.1, p.2]) ↔ t ∈ ix.map (·.1) ++ ix.map (·.2) := by
  simp only [List.mem_flatMap, List.mem_cons, List.not_mem_nil, or_false, List.mem_append, List.mem_map]
  constructor
  · rintro ⟨p, hp, rfl | rfl⟩
    · exact .inl ⟨p, hp, rfl⟩
    · exact .inr ⟨p, hp, rfl⟩
  · rintro (⟨p, hp, rfl⟩ | ⟨p, hp, rfl⟩)
    · exact ⟨p, hp, .inl rfl⟩
    · exact ⟨p, hp, .inr rfl⟩

end

section
variable (env : Env) (o : SOpts) (n : Nat) (desc : Option String) (seen : List String)

theorem schema_plain {rt : RT} (h : plain rt = true) :
    schema env o (n+1) rt desc seen = layer o (schema env o n · none seen) desc rt := by
  funext c
  cases rt with
  | described _ _ | ref _ | disc _ _ _ _ => cases h
  | const v | consts vs =>
    dsimp only [schema, layer, leaf]; split <;> rename_i h <;> rw [h] <;> exact (SRes.ofOption_some _ c).symm
  | array t | optional t => dsimp only [schema, layer]; cases schema env o n t none seen c <;> rfl
  | anyOf ts => dsimp only [schema, layer]; cases seqS (schema env o n · none seen) ts c <;> rfl
  | allOf ts =>
    dsimp only [schema, layer]
    cases seqS (schema env o n · none seen) ts c with
    | ok ss c1 => dsimp only [SRes.bind]; cases tryMergeAllOf ss <;> rfl
    | _ => rfl
  | tuple pre rest =>
    dsimp only [schema, layer]
    cases seqS (schema env o n · none seen) pre c with
    | ok ps c1 =>
      dsimp only [SRes.bind]
      cases rest with
      | none => rfl
      | some r => dsimp only; cases schema env o n r none seen c1 <;> rfl
    | _ => rfl
  | object props ix =>
    dsimp only [schema, layer]
    cases propsS (schema env o n · none seen) props ([], []) c with
    | ok pso c1 =>
      dsimp only [SRes.bind]
      cases indexS (schema env o n · none seen) ix c1 with
      | ok ixs c2 =>
        dsimp only [objectSchema]
        cases ixs.length == 0 with
        | true => rfl
        | false =>
          cases pso.1.length == 0 && ixs.length == 1 with
          | false => rfl
          | true =>
            generalize stripDesc (ix.headD (.any, .any)).2 = ixv
            generalize ixs.headD .null = s
            cases ixv with
            | any => cases s <;> rfl
            | _ => rfl
      | _ => rfl
    | _ => rfl
  | date | bigint | typed _ | map _ _ | set _ => exact (SRes.ofOption_none c).symm
  | _ => exact (SRes.ofOption_some _ c).symm

def refTarget (name : String) (to : RT) : RT :=
  match o.overrides.find? (fun p => p.1 == name) with
  | some p => p.2
  | none => to

def discSchema (key : String) (refs : List (String × String)) : JsVal :=
  jobj [("type", .str "object"),
    ("discriminator", jobj [("propertyName", .str key), ("mapping", jobj (refs.map fun r => (r.1, JsVal.str r.2)))]),
    ("oneOf", .arr (refs.map fun r => jobj [("$ref", .str r.2)]))]

theorem schema_ref_ctx (hc : o.contextual = true) (name : String) :
    schema env o (n+1) (.ref name) desc seen = fun c => (SRes.ofOption (env.lookup name) c).bind fun to c =>
      (defineS (schema env o n · none seen) name (refTarget o name to) c).bind fun _ c1 =>
        .ok (annotate desc (jobj [("$ref", .str (getRef o.refTemplate name))])) c1 := by
  funext c
  dsimp only [schema]
  rw [hc]
  cases env.lookup name with
  | none => rw [SRes.ofOption_none]; rfl
  | some to =>
    rw [SRes.ofOption_some]
    dsimp only [SRes.bind, refTarget]
    cases o.overrides.find? (fun p => p.1 == name) <;> dsimp only <;> cases defineS _ name _ c <;> rfl

theorem schema_ref_flat (hc : o.contextual = false) (name : String) :
    schema env o (n+1) (.ref name) desc seen = fun c => (SRes.ofOption (env.lookup name) c).bind fun to c =>
      if seen.contains name then .ok (annotate desc (jobj [])) c
      else (schema env o n to none (name :: seen) c).bind fun s c1 => .ok (annotate desc s) c1 := by
  funext c
  dsimp only [schema]
  rw [hc]
  cases env.lookup name with
  | none => rw [SRes.ofOption_none]; rfl
  | some to =>
    rw [SRes.ofOption_some]
    dsimp only [SRes.bind]
    cases seen.contains name with
    | true => rfl
    | false => cases schema env o n to none (name :: seen) c <;> rfl

theorem schema_disc_ctx (hc : o.contextual = true) (schemas : List RT) (key : String) (mp sm : List (String × RT)) :
    schema env o (n+1) (.disc schemas key mp sm) desc seen = fun c =>
      (SRes.ofOption (hash env 200 (.disc schemas key mp sm) []) c).bind fun uh c =>
        (variantsS (schema env o n · none seen) (variantTarget env o key uh sm) o.refTemplate sm c).bind fun refs c1 =>
          .ok (annotate desc (discSchema key refs)) c1 := by
  funext c
  dsimp only [schema]
  rw [hc]
  cases hash env 200 (.disc schemas key mp sm) [] with
  | none => rw [SRes.ofOption_none]; rfl
  | some uh => rw [SRes.ofOption_some]; dsimp only [SRes.bind]; cases variantsS _ _ _ sm c <;> rfl

theorem schema_disc_flat (hc : o.contextual = false) (schemas : List RT) (key : String) (mp sm : List (String × RT)) :
    schema env o (n+1) (.disc schemas key mp sm) desc seen = fun c =>
      (seqS (schema env o n · none seen) schemas c).bind fun ss c1 =>
        .ok (annotate desc (jobj [("type", .str "object"), ("discriminator", jobj [("propertyName", .str key)]),
          ("anyOf", .arr ss)])) c1 := by
  funext c
  dsimp only [schema]
  rw [hc]
  cases seqS _ schemas c <;> rfl

variable {env o n desc seen}

theorem schema_ref_ok (hc : o.contextual = true) {name : String} {c : SCtx} {s : JsVal} {c' : SCtx}
    (h : schema env o (n+1) (.ref name) desc seen c = .ok s c') : ∃ to, env.lookup name = some to ∧
      defineS (schema env o n · none seen) name (refTarget o name to) c = .ok () c' ∧
      s = annotate desc (jobj [("$ref", .str (getRef o.refTemplate name))]) := by
  rw [schema_ref_ctx env o n desc seen hc] at h
  obtain ⟨to, c0, e0, h0⟩ := SRes.bind_eq_ok h
  obtain ⟨hl, hc0⟩ := SRes.ofOption_eq_ok e0
  subst hc0
  obtain ⟨_, c1, e1, h1⟩ := SRes.bind_eq_ok h0
  cases h1
  exact ⟨to, hl, e1, rfl⟩

theorem schema_disc_ok (hc : o.contextual = true) {schemas : List RT} {key : String} {mp sm : List (String × RT)} {c : SCtx}
    {s : JsVal} {c' : SCtx} (h : schema env o (n+1) (.disc schemas key mp sm) desc seen c = .ok s c') :
    ∃ uh refs, hash env 200 (.disc schemas key mp sm) [] = some uh ∧
      variantsS (schema env o n · none seen) (variantTarget env o key uh sm) o.refTemplate sm c = .ok refs c' ∧
      s = annotate desc (discSchema key refs) := by
  rw [schema_disc_ctx env o n desc seen hc] at h
  obtain ⟨uh, c0, e0, h0⟩ := SRes.bind_eq_ok h
  obtain ⟨hh, hc0⟩ := SRes.ofOption_eq_ok e0
  subst hc0
  obtain ⟨refs, c1, e1, h1⟩ := SRes.bind_eq_ok h0
  cases h1
  exact ⟨uh, refs, hh, e1, rfl⟩

end

end BeffVerif.RT
