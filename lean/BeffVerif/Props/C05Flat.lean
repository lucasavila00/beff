import BeffVerif.Props.C05
import BeffVerif.Lemmas.Sort
import BeffVerif.Lemmas.Bdd
/-!
# C05 — assignability = inclusion, for flat object types (one object type against one object type)

`Props/C05.lean` proves the decision exact on type vectors without object / list part. This file carries it one level up:
an object type whose declared properties are inhabited scalar types (no index signature), on the left of `extends`,
against an object type on the right, with or without a (string) index signature (`flat_object_subtype_iff_inclusion`).
That is reading S8 of the reference, a theorem on this fragment instead of a sampled agreement.

The proof follows the engine step by step: the difference of two atoms is one diagram with one clause `A ∧ ¬B`
(`diff_atoms`), the clause's positive side is the atom itself with its keys sorted (`intersect_first`, `pos_single`),
`check_mapping_empty` walks the union of the keys and asks, per key, whether `A[k] \ B[k]` is empty (`keys_fold`, using
the scalar theorem), the index-signature dimension contributes nothing (`index_dim_empty`, used in `check_cons`; `check_one`
is the assembled statement for one negative atom), the memo and the DNF plumbing are transparent (`mapping_clause`,
`subtype_clause`, `isEmpty_objVec`). The statement is false for unions of object types on the left (D25) and
for an index signature on the left against a union of index-signature types (D84): both are outside the hypotheses (one
atom on each side, no index signature on the left; one on the right is fine).
-/
namespace BeffVerif.C05Flat
open BeffVerif Sem C05 Bdd

@[simp] theorem sm_pure {α : Type} (a : α) (c : Ctx) : (pure a : SM α) c = some (a, c) := rfl

/-- what this file asks of a property type: no object / list part, literal sets in normal form -/
def Good (t : SemType) : Prop := ScalarOnly t ∧ WF t
/-- inhabited, as far as scalar values go -/
def Inh (t : SemType) : Prop := ∃ v, hasScalar t v = true

theorem isEmpty_good (n : Nat) (t : SemType) (c : Ctx) (hg : Good t) :
    ∃ r, isEmpty (n + 1) t c = some (r, c) ∧ (r = false ↔ Inh t) := by
  obtain ⟨r, hr, hiff⟩ := isEmpty_scalarOnly n t c hg.1 hg.2
  refine ⟨r, hr, ?_⟩
  rw [← Bool.not_eq_true, hiff]
  simp only [Inh, Classical.not_forall, Bool.not_eq_false]

theorem isEmpty_inh (n : Nat) (t : SemType) (c : Ctx) (hg : Good t) (hi : Inh t) :
    isEmpty (n + 1) t c = some (false, c) := by
  obtain ⟨r, hr, hiff⟩ := isEmpty_good n t c hg
  exact hiff.2 hi ▸ hr

/-- `check_mapping_empty` and `list_formula_is_empty` first look for an empty component: there is none -/
theorem anyEmpty_false {α : Type} (n : Nat) (g : α → SemType) (xs : List α) (c : Ctx)
    (h : ∀ x ∈ xs, Good (g x) ∧ Inh (g x)) :
    xs.foldlM (fun (acc : Bool) x => if acc then (pure true : SM Bool) else isEmpty (n + 1) (g x)) false c
      = some (false, c) := by
  induction xs with
  | nil => rfl
  | cons x xs ih =>
    have hx := h x List.mem_cons_self
    rw [List.foldlM_cons, if_neg Bool.false_ne_true, sm_bind_of (isEmpty_inh n _ c hx.1 hx.2)]
    exact ih fun y hy => h y (List.mem_cons_of_mem _ hy)

theorem wf_unknown : WF unknown := ⟨trivial, trivial, trivial⟩
theorem good_optionalProp : Good optionalProp := ⟨⟨rfl, rfl⟩, trivial, trivial, trivial⟩
theorem good_never : Good never := ⟨⟨rfl, rfl⟩, trivial, trivial, trivial⟩

theorem diff_good (a b : SemType) (ha : Good a) (hb : WF b) :
    ∃ d, Sem.diff a b = some d ∧ Good d ∧ ∀ v, hasScalar d v = (hasScalar a v && !hasScalar b v) := by
  obtain ⟨d, hd, hds, hdv, hwd⟩ := diff_scalarOnly a b ha.1
  exact ⟨d, hd, ⟨hds, hwd ha.2 hb⟩, hdv⟩

theorem inh_diff_iff {a b d : SemType} (hd : ∀ v, hasScalar d v = (hasScalar a v && !hasScalar b v)) :
    Inh d ↔ ¬ ∀ v, hasScalar a v = true → hasScalar b v = true := by
  simp only [Inh, hd, Bool.and_eq_true, Bool.not_eq_true', Classical.not_forall, exists_prop, Bool.not_eq_true]

theorem hasScalar_unknown (v : Scalar) : hasScalar unknown v = true := by
  cases v <;> rfl

theorem hasScalar_makeOptional_unknown (v : Scalar) : hasScalar (makeOptional unknown) v = true := by
  cases v <;> rfl

theorem hasScalar_never (v : Scalar) : hasScalar never v = false := by
  cases v <;> rfl

theorem absent_of_optionalProp (v : Scalar) (h : hasScalar optionalProp v = true) : v = .absent := by
  cases v <;> first | rfl | cases h

theorem not_isNever (t : SemType) (h : Inh t) : t.isNever = false := by
  cases hn : t.isNever
  · rfl
  · obtain ⟨v, hv⟩ := h
    rw [of_decide_eq_true hn, hasScalar_never] at hv
    cases hv

/-- the index-signature dimension of a closed positive atom: "no further key" against "further keys, if any, in `w`" —
nothing is left over -/
theorem index_dim_empty (n : Nat) (w : SemType) (hw : WF w) (c : Ctx) (f : SemType → SM Bool) :
    (SM.lift (Sem.diff optionalProp (makeOptional w)) >>= fun d =>
      isEmpty (n + 2) d >>= fun e => if e = true then pure true else f d) c = some (true, c) := by
  obtain ⟨d, hd, hdg, hdv⟩ := diff_good optionalProp (makeOptional w) good_optionalProp hw
  obtain ⟨e, he, heiff⟩ := isEmpty_good (n + 1) d c hdg
  rw [hd, sm_lift_bind, sm_bind_of he]
  cases e with
  | true => rfl
  | false =>
    obtain ⟨v, hv⟩ := heiff.1 rfl
    rw [hdv, Bool.and_eq_true] at hv
    rw [absent_of_optionalProp v hv.1] at hv
    cases hv.2

theorem vsGet_mem {vs : List (String × SemType)} {k : String} {t : SemType} (h : vsGet vs k = some t) :
    ∃ p ∈ vs, p.2 = t := by
  unfold vsGet at h
  cases hf : vs.find? (fun p => p.1 == k) with
  | none => rw [hf] at h; cases h
  | some p => rw [hf] at h; exact ⟨p, List.mem_of_find?_eq_some hf, Option.some.inj h⟩

theorem vsGet_none {vs : List (String × SemType)} {k : String} (h : k ∉ vs.map (·.1)) : vsGet vs k = none := by
  unfold vsGet
  rw [List.find?_eq_none.2 fun p hp e => h (List.mem_map.2 ⟨p, hp, beq_iff_eq.1 e⟩)]
  rfl

theorem good_valueExact (P : MappingAtomic) (hP : ∀ p ∈ P.vs, Good p.2) (hi : P.index = none) (k : String) :
    Good (valueExact P k) := by
  unfold valueExact
  cases hg : vsGet P.vs k with
  | none => rw [hi]; exact good_optionalProp
  | some t => obtain ⟨p, hp, e⟩ := vsGet_mem hg; exact e ▸ hP p hp

theorem inh_valueExact (P : MappingAtomic) (hP : ∀ p ∈ P.vs, Inh p.2) (hi : P.index = none) (k : String) :
    Inh (valueExact P k) := by
  unfold valueExact
  cases hg : vsGet P.vs k with
  | none => rw [hi]; exact ⟨.absent, rfl⟩
  | some t => obtain ⟨p, hp, e⟩ := vsGet_mem hg; exact e ▸ hP p hp

theorem wf_valueOpen (B : MappingAtomic) (hB : ∀ q ∈ B.vs, WF q.2) (hi : ∀ w, B.index = some w → WF w) (k : String) :
    WF (valueOpen B k) := by
  unfold valueOpen
  cases hg : vsGet B.vs k with
  | none =>
    cases hx : B.index with
    | none => exact wf_unknown
    | some w => exact hi w hx
  | some t => obtain ⟨p, hp, e⟩ := vsGet_mem hg; exact e ▸ hB p hp

theorem mem_vsPut {vs : List (String × SemType)} {k : String} {d : SemType} {p : String × SemType}
    (h : p ∈ vsPut vs k d) : p ∈ vs ∨ p = (k, d) := by
  unfold vsPut at h
  by_cases hany : vs.any (·.1 == k) = true
  · rw [if_pos hany] at h
    obtain ⟨q, hq, e⟩ := List.mem_map.1 h
    by_cases hq' : (q.1 == k) = true
    · exact Or.inr ((if_pos hq').symm.trans e).symm
    · exact Or.inl ((if_neg hq').symm.trans e ▸ hq)
  · rw [if_neg hany] at h
    exact (List.mem_append.1 h).imp_right List.mem_singleton.1

theorem mem_dedup_acc (xs acc : List String) (x : String) :
    x ∈ xs.foldl (fun a s => if a.contains s then a else a ++ [s]) acc ↔ x ∈ acc ∨ x ∈ xs := by
  induction xs generalizing acc with
  | nil => simp
  | cons y ys ih =>
    rw [List.foldl_cons, ih, List.mem_cons]
    by_cases hc : acc.contains y = true
    · rw [if_pos hc]
      have hy : y ∈ acc := List.contains_iff_mem.1 hc
      exact ⟨fun h => h.imp_right Or.inr, fun h => h.elim Or.inl fun h => h.elim (fun e => Or.inl (e ▸ hy)) Or.inr⟩
    · rw [if_neg hc, List.mem_append, List.mem_singleton, or_assoc]

theorem mem_dedup (xs : List String) (x : String) : x ∈ dedup xs ↔ x ∈ xs := by
  unfold dedup; rw [mem_dedup_acc]; simp

theorem mem_sortStrings (xs : List String) (x : String) : x ∈ JsVal.sortStrings xs ↔ x ∈ xs :=
  (C10.sortBy_perm _ xs).mem_iff

def keysOf (P B : MappingAtomic) : List String :=
  JsVal.sortStrings (dedup (P.vs.map (·.1) ++ B.vs.map (·.1)))

theorem mem_keysOf (P B : MappingAtomic) (k : String) :
    k ∈ keysOf P B ↔ k ∈ P.vs.map (·.1) ∨ k ∈ B.vs.map (·.1) := by
  unfold keysOf; rw [mem_sortStrings, mem_dedup, List.mem_append]

theorem check_nil (n : Nat) (P : MappingAtomic) (c : Ctx) (h : ∀ p ∈ P.vs, Good p.2 ∧ Inh p.2) :
    checkMappingEmpty (n + 2) P [] c = some (false, c) := by
  -- stated first: elaborated as an argument it would be unified against the unfolded engine, which is slow
  have hany := anyEmpty_false n (·.2) P.vs c h
  exact sm_step hany rfl

/-- what the engine asks of one key: every value the left side may have there is a value the right side allows there -/
def Covered (P B : MappingAtomic) (k : String) : Prop :=
  ∀ v, hasScalar (valueExact P k) v = true → hasScalar (valueOpen B k) v = true

/-- the body of the per-key loop of `check_mapping_empty` -/
def keyStep (m : Nat) (P B : MappingAtomic) (rest : List MappingAtomic) (ok : Bool) (k : String) : SM Bool :=
  if !ok then (pure false : SM Bool) else do
    let d ← SM.lift (Sem.diff (valueExact P k) (valueOpen B k))
    if ← isEmpty m d then pure true
    else do
      let r ← checkMappingEmpty m { P with vs := vsPut P.vs k d } rest
      pure r

/-- `Q k d` is whatever the recursive call on the atom narrowed at `k` to the (inhabited) difference `d` decides -/
theorem keys_loop (m : Nat) (P B : MappingAtomic) (rest : List MappingAtomic) (c : Ctx) (Q : String → SemType → Prop)
    (hP : ∀ k, Good (valueExact P k)) (hB : ∀ k, WF (valueOpen B k))
    (hemp : ∀ d, Good d → ∃ e, isEmpty m d c = some (e, c) ∧ (e = false ↔ Inh d))
    (hinner : ∀ k d, Good d → Inh d →
      ∃ r, checkMappingEmpty m { P with vs := vsPut P.vs k d } rest c = some (r, c) ∧ (r = true ↔ Q k d))
    (keys : List String) (ok : Bool) :
    ∃ r, keys.foldlM (keyStep m P B rest) ok c = some (r, c) ∧
      (r = true ↔ ok = true ∧
        ∀ k ∈ keys, ∀ d, Sem.diff (valueExact P k) (valueOpen B k) = some d → Inh d → Q k d) := by
  refine foldlM_and _ c _ keys (fun k _ => ?_) ok
  obtain ⟨d, hd, hdg, -⟩ := diff_good _ _ (hP k) (hB k)
  obtain ⟨e, he, heiff⟩ := hemp d hdg
  rw [hd, sm_lift_bind, sm_bind_of he]
  cases e with
  | true =>
    refine ⟨true, rfl, fun _ d' hd' hi => ?_, fun _ => rfl⟩
    cases hd'
    cases heiff.2 hi
  | false =>
    obtain ⟨r, hr, hiff⟩ := hinner k d hdg (heiff.1 rfl)
    refine ⟨r, hr, hiff.trans ⟨fun h d' hd' _ => ?_, fun h => h d rfl (heiff.1 rfl)⟩⟩
    cases hd'
    exact h

/-- with no further negative atom the narrowed atom is never empty, so a key passes exactly when it is covered -/
theorem keys_fold (n : Nat) (P B : MappingAtomic) (c : Ctx)
    (hP : ∀ p ∈ P.vs, Good p.2 ∧ Inh p.2) (hPi : P.index = none)
    (hB : ∀ q ∈ B.vs, WF q.2) (hBi : ∀ w, B.index = some w → WF w) (keys : List String) (ok : Bool) :
    ∃ r, keys.foldlM (fun (ok : Bool) (k : String) =>
        if !ok then (pure false : SM Bool) else do
          let d ← SM.lift (diff (valueExact P k) (valueOpen B k))
          if ← isEmpty (n + 2) d then pure true
          else do
            let r ← checkMappingEmpty (n + 2) { P with vs := vsPut P.vs k d } []
            pure r) ok c = some (r, c) ∧ (r = true ↔ ok = true ∧ ∀ k ∈ keys, Covered P B k) := by
  have hPg := good_valueExact P (fun p hp => (hP p hp).1) hPi
  have hBw := wf_valueOpen B hB hBi
  obtain ⟨r, hr, hiff⟩ := keys_loop (n + 2) P B [] c (fun _ _ => False) hPg hBw (fun d => isEmpty_good (n + 1) d c)
    (fun k d hdg hdi => ⟨false, check_nil n _ c fun p hp => (mem_vsPut hp).elim (hP p) fun e => e ▸ ⟨hdg, hdi⟩, by simp⟩)
    keys ok
  refine ⟨r, hr, hiff.trans (and_congr_right fun _ => forall₂_congr fun k _ => ?_)⟩
  obtain ⟨d, hd, -, hdv⟩ := diff_good _ _ (hPg k) (hBw k)
  simp only [hd, Option.some.injEq, forall_eq', inh_diff_iff hdv, imp_false, Classical.not_not, Covered]

/-- a negative atom `B` in front of `rest`: the answer is that of the key loop, since the index-signature dimension that
follows a "yes" of the loop is empty (`index_dim_empty`) -/
theorem check_cons (m : Nat) (P B : MappingAtomic) (rest : List MappingAtomic) (c : Ctx) (r : Bool)
    (hP : ∀ p ∈ P.vs, Good p.2 ∧ Inh p.2) (hPi : P.index = none) (hBi : ∀ w, B.index = some w → WF w)
    (hloop : (keysOf P B).foldlM (keyStep (m + 2) P B rest) true c = some (r, c)) :
    checkMappingEmpty (m + 3) P (B :: rest) c = some (r, c) := by
  have hany := anyEmpty_false (m + 1) (·.2) P.vs c hP
  refine sm_step hany (sm_step hloop ?_)
  cases r with
  | false => rfl
  | true =>
    -- brought to the form of `index_dim_empty` by rewriting: leaving it to unification costs several times as much
    rw [if_neg (by decide), hPi]
    cases hx : B.index with
    | none => exact index_dim_empty m unknown wf_unknown c _
    | some w => exact index_dim_empty m w (hBi w hx) c _

/-- `check_mapping_empty` on one positive and one negative flat atom: total, leaves the context alone, and says "empty"
exactly when every key in sight is covered -/
theorem check_one (n : Nat) (P B : MappingAtomic) (c : Ctx)
    (hP : ∀ p ∈ P.vs, Good p.2 ∧ Inh p.2) (hPi : P.index = none)
    (hB : ∀ q ∈ B.vs, WF q.2) (hBi : ∀ w, B.index = some w → WF w) :
    ∃ r, checkMappingEmpty (n + 3) P [B] c = some (r, c) ∧ (r = true ↔ ∀ k ∈ keysOf P B, Covered P B k) := by
  obtain ⟨r, hr, hiff⟩ := keys_fold n P B c hP hPi hB hBi (keysOf P B) true
  exact ⟨r, check_cons n P B [] c r hP hPi hBi hr, hiff.trans (and_iff_right rfl)⟩

/-- an object value of the fragment: what each key holds (`absent` for a key the object does not have) -/
abbrev ObjVal := String → Scalar
/-- exact member: every key holds a value of its declared type, an undeclared key is absent -/
def memExact (A : MappingAtomic) (o : ObjVal) : Prop := ∀ k, hasScalar (valueExact A k) (o k) = true
/-- structural member: every declared key holds a value of its type (absent if optional), other keys are free -/
def memOpen (B : MappingAtomic) (o : ObjVal) : Prop := ∀ k, hasScalar (valueOpen B k) (o k) = true

/-- an exact value is absent there, and absence is allowed with or without an index signature -/
theorem covered_undeclared (P B : MappingAtomic) (hPi : P.index = none) (k : String)
    (hkP : k ∉ P.vs.map (·.1)) (hkB : k ∉ B.vs.map (·.1)) : Covered P B k := by
  intro v hv
  unfold valueExact at hv
  rw [vsGet_none hkP, hPi] at hv
  unfold valueOpen
  rw [vsGet_none hkB, absent_of_optionalProp v hv]
  cases B.index <;> rfl

theorem exists_memExact (P : MappingAtomic) (hP : ∀ p ∈ P.vs, Inh p.2) (hPi : P.index = none) (k : String) (v : Scalar)
    (hv : hasScalar (valueExact P k) v = true) : ∃ o, memExact P o ∧ o k = v := by
  refine ⟨fun k' => if k' = k then v else Classical.choose (inh_valueExact P hP hPi k'), fun k' => ?_, if_pos rfl⟩
  show hasScalar (valueExact P k') (if k' = k then v else _) = true
  by_cases e : k' = k
  · rw [if_pos e]; exact e ▸ hv
  · rw [if_neg e]; exact Classical.choose_spec (inh_valueExact P hP hPi k')

theorem covered_iff (P B : MappingAtomic) (hP : ∀ p ∈ P.vs, Inh p.2) (hPi : P.index = none)
    (keys : List String) (hkeys : ∀ k, k ∈ B.vs.map (·.1) → k ∈ keys) (hkeysP : ∀ k, k ∈ P.vs.map (·.1) → k ∈ keys) :
    (∀ k ∈ keys, Covered P B k) ↔ ∀ o, memExact P o → memOpen B o := by
  constructor
  · intro h o ho k
    by_cases hk : k ∈ keys
    · exact h k hk (o k) (ho k)
    · exact covered_undeclared P B hPi k (fun hp => hk (hkeysP k hp)) (fun hb => hk (hkeys k hb)) (o k) (ho k)
  · intro h k _ v hv
    obtain ⟨o, ho, e⟩ := exists_memExact P hP hPi k v hv
    exact e ▸ h o ho k

theorem cmp_cases (a b : Atom) (h : a ≠ b) : Atom.cmp a b = .lt ∨ Atom.cmp a b = .gt := by
  rcases Atom.cmp_cases a b with ⟨e, _⟩ | ⟨_, e⟩ | ⟨e, _⟩
  · exact .inl e
  · exact absurd e h
  · exact .inr e

theorem diff_atoms_shape (a b : Atom) (h : a ≠ b) (n : Nat) :
    Bdd.diff (n + 4) (fromAtom a) (fromAtom b) = some (node a (node b ff ff tt) ff ff) ∨
    Bdd.diff (n + 4) (fromAtom a) (fromAtom b) = some (node b ff ff (node a tt ff ff)) := by
  rcases cmp_cases a b h with hc | hc
  · exact .inl ((diff_lt (n + 3) hc).trans rfl)
  · exact .inr ((diff_gt (n + 3) hc).trans rfl)

/-- the difference of two distinct atoms has exactly one clause: the first atom and not the second -/
theorem diff_atoms (a b : Atom) (h : a ≠ b) (n : Nat) :
    ∃ d, Bdd.diff (n + 4) (fromAtom a) (fromAtom b) = some d ∧ Dnf.ofBdd d = [⟨[a], [b]⟩] := by
  rcases diff_atoms_shape a b h n with hd | hd
  · exact ⟨_, hd, rfl⟩
  · exact ⟨_, hd, rfl⟩

/-- the type vector whose only part is the object diagram `D` -/
def objVec (D : Bdd) : SemType := { never with mapping := .some D }

theorem diff_objVec (a b D : Bdd) (h : Bdd.diff fuelB a b = some D) : Sem.diff (objVec a) (objVec b) = some (objVec D) := by
  unfold Sem.diff
  dsimp only [objVec, never, subDiff, bddDiff]
  rw [h]
  rfl

theorem union_objVec (a b D : Bdd) (h : Bdd.union fuelB a b = some D) : Sem.union (objVec a) (objVec b) = some (objVec D) := by
  unfold Sem.union
  dsimp only [objVec, never, subUnion, bddUnion]
  rw [h]
  rfl

theorem isEmpty_objVec (n : Nat) (D : Bdd) (c c' : Ctx) (r : Bool) (h : mappingIsEmpty n D c = some (r, c')) :
    isEmpty (n + 1) (objVec D) c = some (r, c') := by
  refine sm_step h ?_
  cases r <;> rfl

theorem vsGet_map (names : List String) (g : String → SemType) (k : String) :
    vsGet (names.map fun n => (n, g n)) k = if k ∈ names then some (g k) else none := by
  unfold vsGet
  induction names with
  | nil => simp
  | cons n ns ih =>
    simp only [List.map_cons, List.find?_cons, List.mem_cons]
    by_cases h : (n == k) = true
    · have e : n = k := beq_iff_eq.1 h
      simp [e]
    · have : ¬ k = n := fun e => h (by simp [e])
      simp only [h, this, false_or]
      exact ih

theorem valueOpen_declared (A : MappingAtomic) {k : String} (h : k ∈ A.vs.map (·.1)) :
    ∃ p ∈ A.vs, vsGet A.vs k = some p.2 ∧ valueOpen A k = p.2 := by
  obtain ⟨q, hq, e⟩ := List.mem_map.1 h
  unfold valueOpen vsGet
  cases hf : A.vs.find? (fun p => p.1 == k) with
  | none => exact absurd (beq_iff_eq.2 e) (List.find?_eq_none.1 hf q hq)
  | some p => exact ⟨p, List.mem_of_find?_eq_some hf, rfl, rfl⟩

/-- one step of the fold inside `intersect_mapping` -/
def imStep (m1 m2 : MappingAtomic) (acc : Option (List (String × SemType))) (name : String) :
    Option (Option (List (String × SemType))) :=
  match acc with
  | none => some none
  | some vs => do
    let t ← inter (valueOpen m1 name) (valueOpen m2 name)
    if t.isNever then some none else some (some (vs ++ [(name, t)]))

theorem imFold (A : MappingAtomic) (hA : ∀ p ∈ A.vs, Inh p.2) :
    ∀ (names : List String) (vs0 : List (String × SemType)), (∀ k ∈ names, k ∈ A.vs.map (·.1)) →
      names.foldlM (imStep ⟨[], none⟩ A) (some vs0) = some (some (vs0 ++ names.map fun k => (k, valueOpen A k))) := by
  intro names
  induction names with
  | nil => intro vs0 _; simp
  | cons k ks ih =>
    intro vs0 hk
    have hin : Inh (valueOpen A k) := by
      obtain ⟨p, hp, -, e⟩ := valueOpen_declared A (hk k List.mem_cons_self)
      exact e ▸ hA p hp
    have step : imStep ⟨[], none⟩ A (some vs0) k = some (some (vs0 ++ [(k, valueOpen A k)])) := by
      have h1 : valueOpen (⟨[], none⟩ : MappingAtomic) k = unknown := rfl
      simp [imStep, h1, inter_unknown, not_isNever _ hin]
    rw [List.foldlM_cons, step]
    show List.foldlM (imStep ⟨[], none⟩ A) (some (vs0 ++ [(k, valueOpen A k)])) ks = _
    rw [ih _ fun k' hk' => hk k' (List.mem_cons_of_mem _ hk')]
    simp

/-- the intersection of "no atom yet" with one flat atom: the atom again, its keys sorted -/
theorem intersect_first (A : MappingAtomic) (hA : ∀ p ∈ A.vs, Inh p.2) (hi : A.index = none) :
    intersectMapping ⟨[], none⟩ A =
      some (some ⟨(JsVal.sortStrings (dedup (A.vs.map (·.1)))).map (fun k => (k, valueOpen A k)), none⟩) := by
  unfold intersectMapping
  show ((JsVal.sortStrings (dedup ([] ++ A.vs.map (·.1)))).foldlM (imStep ⟨[], none⟩ A) (some []) >>= _) = _
  rw [imFold A hA _ [] (fun k hk => by simpa [mem_sortStrings, mem_dedup] using hk)]
  simp [hi]

theorem positive_side (A : MappingAtomic) (hA : ∀ p ∈ A.vs, Good p.2 ∧ Inh p.2) (hAx : A.index = none) :
    ∃ A' : MappingAtomic, intersectMapping ⟨[], none⟩ A = some (some A') ∧ A'.index = none ∧
      (∀ p ∈ A'.vs, Good p.2 ∧ Inh p.2) ∧ (∀ k, valueExact A' k = valueExact A k) := by
  refine ⟨_, intersect_first A (fun p hp => (hA p hp).2) hAx, rfl, ?_, ?_⟩
  · intro p hp
    obtain ⟨k, hk, e⟩ := List.mem_map.1 hp
    obtain ⟨q, hq, -, hv⟩ := valueOpen_declared A ((mem_dedup _ k).1 ((mem_sortStrings _ k).1 hk))
    rw [← e, hv]
    exact hA q hq
  · intro k
    unfold valueExact
    rw [hAx, vsGet_map]
    by_cases hk : k ∈ A.vs.map (·.1)
    · obtain ⟨q, -, hg, hv⟩ := valueOpen_declared A hk
      rw [if_pos ((mem_sortStrings _ k).2 ((mem_dedup _ k).2 hk)), hg, hv]
    · rw [if_neg fun h => hk ((mem_dedup _ k).1 ((mem_sortStrings _ k).1 h)), vsGet_none hk]

theorem pos_single (n : Nat) (a : Atom) (A A' : MappingAtomic) (c : Ctx)
    (hA : c.mappings[a.idx]? = some (some A)) (hI : intersectMapping ⟨[], none⟩ A = some (some A')) :
    posIntersection (n + 1) [a] c = some (some A', c) := by
  unfold posIntersection
  refine sm_step (getMapping_of hA) ?_
  rw [hI]
  rfl

/-- `dnf_mapping_is_empty` on a diagram of one clause, no answer in the memo yet -/
theorem mapping_clause (n : Nat) (D : Bdd) (a : Atom) (bs : List Atom) (A' : MappingAtomic) (Bs : List MappingAtomic)
    (c : Ctx) (S : Prop)
    (hdnf : Dnf.ofBdd D = [⟨[a], bs⟩])
    (hmemo : c.memoM.find? (fun p => p.1 == Dnf.ofBdd D) = none)
    (hpos : ∀ c1 : Ctx, c1.mappings = c.mappings → posIntersection (n + 1) [a] c1 = some (some A', c1))
    (hBs : ∀ c1 : Ctx, c1.mappings = c.mappings → bs.mapM (fun (at' : Atom) => getMapping at'.idx) c1 = some (Bs, c1))
    (hcheck : ∀ c1 : Ctx, ∃ r, checkMappingEmpty (n + 1) A' Bs c1 = some (r, c1) ∧ (r = true ↔ S)) :
    ∃ r c', mappingIsEmpty (n + 2) D c = some (r, c') ∧ (r = true ↔ S) := by
  let c1 : Ctx := { c with memoM := c.memoM ++ [([⟨[a], bs⟩], none)] }
  obtain ⟨r, hr, hiff⟩ := hcheck c1
  refine ⟨r, { c1 with memoM := c1.memoM.map fun p => if p.1 == [⟨[a], bs⟩] then ([⟨[a], bs⟩], some r) else p }, ?_, hiff⟩
  -- read the memo: no answer; enter the question; the one clause; write the answer
  refine sm_step (m := SM.get) (a := c) rfl ?_
  rw [hdnf] at hmemo ⊢
  rw [hmemo]
  refine sm_step (m := SM.modify _) (a := ()) (c' := c1) rfl ?_
  refine sm_step (mapM_single (sm_step (hpos _ rfl) (sm_step (hBs _ rfl) hr))) ?_
  rw [show [r].all id = r from Bool.and_true r]
  rfl

theorem mapping_single (n : Nat) (D : Bdd) (a b : Atom) (A' B : MappingAtomic) (c : Ctx) (r : Bool)
    (hdnf : Dnf.ofBdd D = [⟨[a], [b]⟩])
    (hmemo : c.memoM.find? (fun p => p.1 == Dnf.ofBdd D) = none)
    (hpos : ∀ c1 : Ctx, c1.mappings = c.mappings → posIntersection (n + 1) [a] c1 = some (some A', c1))
    (hB : c.mappings[b.idx]? = some (some B))
    (hcheck : ∀ c1 : Ctx, checkMappingEmpty (n + 1) A' [B] c1 = some (r, c1)) :
    ∃ c', mappingIsEmpty (n + 2) D c = some (r, c') := by
  obtain ⟨r', c', h, hiff⟩ := mapping_clause n D a [b] A' [B] c (r = true) hdnf hmemo hpos
    (fun c1 h1 => mapM_single (getMapping_of (h1 ▸ hB))) fun c1 => ⟨r, hcheck c1, Iff.rfl⟩
  exact ⟨c', Bool.eq_iff_iff.2 hiff ▸ h⟩

/-- **From `is_subtype` to `check_mapping_empty`.** If `A \ U` is a diagram with the one clause `A ∧ ¬b₁ ∧ … ∧ ¬bₙ`, and
`check_mapping_empty` decides, for every atom with the readings of `A`, whether all its exact values satisfy `T`, then
`is_subtype A U` decides that of `A` -/
theorem subtype_clause (m i : Nat) (bs : List Atom) (A : MappingAtomic) (Bs : List MappingAtomic) (c : Ctx) (U : SemType)
    (D : Bdd) (T : ObjVal → Prop)
    (hdiff : Sem.diff (mappingFromIdx i) U = some (objVec D)) (hdnf : Dnf.ofBdd D = [⟨[⟨mappingKind, i⟩], bs⟩])
    (hmemo : c.memoM.find? (fun p => p.1 == [⟨[⟨mappingKind, i⟩], bs⟩]) = none)
    (hAi : c.mappings[i]? = some (some A)) (hA : ∀ p ∈ A.vs, Good p.2 ∧ Inh p.2) (hAx : A.index = none)
    (hBs : ∀ c1 : Ctx, c1.mappings = c.mappings → bs.mapM (fun (at' : Atom) => getMapping at'.idx) c1 = some (Bs, c1))
    (hcheck : ∀ (A' : MappingAtomic) (c1 : Ctx), (∀ p ∈ A'.vs, Good p.2 ∧ Inh p.2) → A'.index = none →
      ∃ r, checkMappingEmpty (m + 1) A' Bs c1 = some (r, c1) ∧ (r = true ↔ ∀ o, memExact A' o → T o)) :
    ∃ r c', isSubtype (m + 3) (mappingFromIdx i) U c = some (r, c') ∧ (r = true ↔ ∀ o, memExact A o → T o) := by
  obtain ⟨A', hI, hA'x, hA', hexact⟩ := positive_side A hA hAx
  have hmem : ∀ o, memExact A' o ↔ memExact A o := fun o => forall_congr' fun k => by rw [hexact]
  obtain ⟨r, c', hme, hiff⟩ := mapping_clause m D ⟨mappingKind, i⟩ bs A' Bs c _ hdnf (hdnf ▸ hmemo)
    (fun c1 hc1 => pos_single m ⟨mappingKind, i⟩ A A' c1 (hc1 ▸ hAi) hI) hBs fun c1 => hcheck A' c1 hA' hA'x
  refine ⟨r, c', ?_, hiff.trans (forall_congr' fun o => imp_congr_left (hmem o))⟩
  unfold isSubtype
  rw [hdiff]
  exact isEmpty_objVec (m + 2) D c c' r hme

/-- **Flat object types: assignability = inclusion.** `A` an object type without index signature whose declared properties are
inhabited scalar types, `B` an object type with well-formed property types and possibly a (well-formed) index signature; `i ≠ j` their atoms in a context whose memo has no entry for the
clause `A ∧ ¬B` yet (an empty memo in particular). For every fuel
≥ 5 `is_subtype` answers, and the answer is *yes* exactly when every exact value of `A` is a structural value of `B`. -/
theorem flat_object_subtype_iff_inclusion (n i j : Nat) (A B : MappingAtomic) (c : Ctx)
    (hij : i ≠ j) (hAi : c.mappings[i]? = some (some A)) (hBj : c.mappings[j]? = some (some B))
    (hA : ∀ p ∈ A.vs, Good p.2 ∧ Inh p.2) (hAx : A.index = none)
    (hB : ∀ q ∈ B.vs, WF q.2) (hBx : ∀ w, B.index = some w → WF w)
    (hmemo : c.memoM.find? (fun p => p.1 == [⟨[⟨mappingKind, i⟩], [⟨mappingKind, j⟩]⟩]) = none) :
    ∃ r c', isSubtype (n + 5) (mappingFromIdx i) (mappingFromIdx j) c = some (r, c') ∧
      (r = true ↔ ∀ o, memExact A o → memOpen B o) := by
  obtain ⟨D, hD, hdnf⟩ := diff_atoms ⟨mappingKind, i⟩ ⟨mappingKind, j⟩ (fun e => hij (Atom.mk.inj e).2) 196
  -- 196 + 4 = `fuelB`, the fuel `Sem.diff` gives `Bdd.diff` (`diff_objVec`)
  refine subtype_clause (n + 2) i [⟨mappingKind, j⟩] A [B] c _ D (memOpen B) (diff_objVec _ _ D hD) hdnf hmemo hAi hA hAx
    (fun c1 h1 => mapM_single (getMapping_of (h1 ▸ hBj))) fun A' c1 hA' hA'x => ?_
  obtain ⟨r, hr, hiff⟩ := check_one n A' B c1 hA' hA'x hB hBx
  exact ⟨r, hr, hiff.trans (covered_iff A' B (fun p hp => (hA' p hp).2) hA'x (keysOf A' B)
    (fun k hk => (mem_keysOf A' B k).2 (Or.inr hk)) fun k hk => (mem_keysOf A' B k).2 (Or.inl hk))⟩

/-- `{ a: string; b: number }` (atom 0) and `{ a: string }` (atom 1) -/
def exA : MappingAtomic := ⟨[("a", { never with str := .all }), ("b", { never with num := .all })], none⟩
def exB : MappingAtomic := ⟨[("a", { never with str := .all })], none⟩
def exCtx : Ctx := { mappings := [some exA, some exB] }

/-- the hypotheses are satisfiable, and the engine's answers on the instance are the expected ones:
`{ a: string; b: number } extends { a: string }` — yes; the converse — no (`b` is missing) -/
example : ((isSubtype 5 (mappingFromIdx 0) (mappingFromIdx 1) exCtx).map (·.1)) = some true := by decide +kernel
example : ((isSubtype 5 (mappingFromIdx 1) (mappingFromIdx 0) exCtx).map (·.1)) = some false := by decide +kernel
example : (∀ p ∈ exA.vs, Good p.2 ∧ Inh p.2) ∧ exA.index = none ∧ (∀ q ∈ exB.vs, WF q.2) ∧ exB.index = none := by
  refine ⟨?_, rfl, ?_, rfl⟩
  · intro p hp
    simp only [exA, List.mem_cons, List.mem_nil_iff, or_false] at hp
    rcases hp with rfl | rfl
    · exact ⟨⟨⟨rfl, rfl⟩, trivial, trivial, trivial⟩, .str "x", rfl⟩
    · exact ⟨⟨⟨rfl, rfl⟩, trivial, trivial, trivial⟩, .num "1", rfl⟩
  · intro q hq
    simp only [exB, List.mem_cons, List.mem_nil_iff, or_false] at hq
    subst hq
    exact ⟨trivial, trivial, trivial⟩

/-- with an index signature on the right: `{ a: string } extends { [k: string]: string }` — yes;
`{ a: string; b: number } extends { [k: string]: string }` — no -/
def exIx : MappingAtomic := ⟨[], some { never with str := .all }⟩
example : ((isSubtype 5 (mappingFromIdx 1) (mappingFromIdx 2) { mappings := [some exA, some exB, some exIx] }).map (·.1)) = some true := by
  decide +kernel
example : ((isSubtype 5 (mappingFromIdx 0) (mappingFromIdx 2) { mappings := [some exA, some exB, some exIx] }).map (·.1)) = some false := by
  decide +kernel

end BeffVerif.C05Flat
