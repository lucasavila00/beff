import BeffVerif.Props.C16
import BeffVerif.Props.SchemaLayer
/-!
# C16 — what a shared printing context stores for a name does not depend on the history

Part A `schema_value_independent`: in contextual mode the schema RETURNED for a runtype does not depend on the context
it is printed into, nor on the fuel left (a named type is always `$ref`, a discriminated union always its mapping).

Part B `schema_preserves_good` / `definitions_agree`: every definition a context ever holds is the body some print of
the name's own schema source returned; with Part A: two contexts — whatever calls were made on them, in whatever order,
with or without exceptions in between — that both define a name hold the SAME definition for it, the one a fresh
context gets. Hypothesis `Functional`: a name has one schema source (false exactly for colliding synthetic variant
names, D16b).
-/
namespace BeffVerif.C16O
open BeffVerif RT JsVal

def ValInd {α : Type} (f g : SCtx → SRes α) : Prop :=
  ∀ c d a a' c' d', f c = .ok a c' → g d = .ok a' d' → a = a'

theorem ValInd.ret {α : Type} (a : α) : ValInd (SRes.ok a) (SRes.ok a) := by
  intro c d a a' c' d' h1 h2
  cases h1; cases h2; rfl

theorem ValInd.bind {α β : Type} {f g : SCtx → SRes α} {k k' : α → SCtx → SRes β} (h : ValInd f g)
    (hk : ∀ a, ValInd (k a) (k' a)) : ValInd (fun c => (f c).bind k) (fun d => (g d).bind k') := by
  intro c d b b' c' d' h1 h2
  obtain ⟨a, c1, e1, h1⟩ := SRes.bind_eq_ok h1
  obtain ⟨a', d1, e2, h2⟩ := SRes.bind_eq_ok h2
  cases h c d a a' c1 d1 e1 e2
  exact hk a c1 d1 b b' c' d' h1 h2

theorem ValInd.ofOption {α : Type} (x : Option α) : ValInd (SRes.ofOption x) (SRes.ofOption x) := by
  intro c d a a' c' d' h1 h2
  exact Option.some.inj ((SRes.ofOption_eq_ok h1).1.symm.trans (SRes.ofOption_eq_ok h2).1)

variable {go1 go2 : RT → SCtx → SRes JsVal}

theorem seqS_val (ts : List RT) : (∀ t ∈ ts, ValInd (go1 t) (go2 t)) → ValInd (seqS go1 ts) (seqS go2 ts) := by
  induction ts with
  | nil => exact fun _ => ValInd.ret []
  | cons t ts ih =>
    intro h
    simp only [ValInd, seqS_cons]
    exact (h t (.head _)).bind fun s => (ih fun x hx => h x (.tail _ hx)).bind fun ss => .ret _

/-- the references of the variants are a function of the names alone -/
theorem variantsS_val (tgt : String × RT → String × Option RT) (template : String) (kvs : List (String × RT)) :
    ValInd (variantsS go1 tgt template kvs) (variantsS go2 tgt template kvs) := by
  induction kvs with
  | nil => exact ValInd.ret []
  | cons kv rest ih =>
    simp only [ValInd, variantsS_cons]
    cases (tgt kv).2 with
    | none => intro c d a a' c' d' h1; cases h1
    | some target =>
      have hd : ValInd (defineS go1 (tgt kv).1 target) (defineS go2 (tgt kv).1 target) := fun _ _ _ _ _ _ _ _ => rfl
      exact hd.bind fun _ => ih.bind fun refs => .ret _

def ClaimV (env : Env) (o : SOpts) (n1 n2 : Nat) : Prop :=
  ∀ rt desc seen1 seen2, ValInd (schema env o n1 rt desc seen1) (schema env o n2 rt desc seen2)

theorem layer_val (o : SOpts) (desc : Option String) (rt : RT) (h : ∀ t, ValInd (go1 t) (go2 t)) :
    ValInd (layer o go1 desc rt) (layer o go2 desc rt) := by
  simp only [ValInd, layer_eq]
  exact (seqS_val (order rt) fun t _ => h t).bind fun vals => .ofOption _

theorem schema_value_independent (env : Env) (o : SOpts) (hc : o.contextual = true) : ∀ n1 n2, ClaimV env o n1 n2 := by
  intro n1
  induction n1 with
  | zero => intro n2 rt desc s1 s2 c d a a' c' d' h1 _; cases h1
  | succ n1 ih =>
    intro n2
    cases n2 with
    | zero => intro rt desc s1 s2 c d a a' c' d' _ h2; cases h2
    | succ n2 =>
      intro rt desc s1 s2
      rcases layer_cases rt with ⟨dd, t, rfl⟩ | ⟨name, rfl⟩ | ⟨schemas, key, mp, sm, rfl⟩ | hp
      · exact ih n2 t (some dd) s1 s2
      · rw [schema_ref_ctx env o n1 desc s1 hc, schema_ref_ctx env o n2 desc s2 hc]
        exact (ValInd.ofOption _).bind fun to => ValInd.bind (fun _ _ _ _ _ _ _ _ => rfl) fun _ => .ret _
      · rw [schema_disc_ctx env o n1 desc s1 hc, schema_disc_ctx env o n2 desc s2 hc]
        exact (ValInd.ofOption _).bind fun uh => (variantsS_val _ _ sm).bind fun refs => .ret _
      · rw [schema_plain env o n1 desc s1 hp, schema_plain env o n2 desc s2 hp]
        exact layer_val o desc rt fun t => ih n2 t none s1 s2

/-- the runtypes `schema` recurses into -/
def kids : RT → List RT
  | .described _ t => [t]
  | .tuple pre rest => pre ++ (match rest with | some r => [r] | none => [])
  | .allOf ts => ts
  | .anyOf ts => ts
  | .array t => [t]
  | .optional t => [t]
  | .disc schemas _ _ sm => schemas ++ sm.map (·.2)
  | .object props ix => props.map (·.2) ++ (ix.map (·.1) ++ ix.map (·.2))
  | _ => []

/-- the schema source of a named type: the override if there is one, else the type's runtype -/
def namedTarget (env : Env) (o : SOpts) (name : String) : Option RT :=
  match o.overrides.find? (fun p => p.1 == name) with
  | some p => some p.2
  | none => env.lookup name

theorem namedTarget_of_lookup {env : Env} (o : SOpts) {name : String} {to : RT} (h : env.lookup name = some to) :
    namedTarget env o name = some (refTarget o name to) := by
  unfold namedTarget refTarget
  cases o.overrides.find? (fun p => p.1 == name) with
  | some p => rfl
  | none => exact h

theorem mem_kids_of_order {rt t : RT} (h : t ∈ order rt) : t ∈ kids rt := by
  cases rt with
  | tuple pre rest => cases rest <;> exact h
  | allOf ts | anyOf ts | array _ | optional _ => exact h
  | object props ix =>
    exact (List.mem_append.1 h).elim (List.mem_append_left _) fun h => List.mem_append_right _ (mem_flatMap_pair.1 h)
  | _ => cases h

section
variable (env : Env) (o : SOpts) (roots : List RT)

/-- everything a print of one of the `roots` can come across -/
inductive Reach : RT → Prop
  | root {t : RT} : t ∈ roots → Reach t
  | kid {rt t : RT} : Reach rt → t ∈ kids rt → Reach t
  | named {name : String} {t : RT} : Reach (.ref name) → namedTarget env o name = some t → Reach t

/-- `Src name t`: some reachable node makes the context store a print of `t` under `name` -/
inductive Src : String → RT → Prop
  | named {name : String} {t : RT} : Reach env o roots (.ref name) → namedTarget env o name = some t → Src name t
  | variant {schemas : List RT} {key : String} {mp sm : List (String × RT)} {uh : Int} {kv : String × RT} {name : String}
      {t : RT} : Reach env o roots (.disc schemas key mp sm) → hash env 200 (.disc schemas key mp sm) [] = some uh → kv ∈ sm →
      variantTarget env o key uh sm kv = (name, some t) → Src name t

/-- a name has one schema source -/
def Functional : Prop := ∀ name t1 t2, Src env o roots name t1 → Src env o roots name t2 → t1 = t2

def Body (name : String) (b : JsVal) : Prop :=
  ∃ t, Src env o roots name t ∧ ∃ k seen c0 c0', schema env o k t none seen c0 = .ok b c0'

/-- every collected definition is a print of its name's source -/
def Good (c : SCtx) : Prop := ∀ p ∈ c.collected, Body env o roots p.1 p.2

def GoodRes {α : Type} : SRes α → Prop
  | .ok _ c => Good env o roots c
  | .throw c => Good env o roots c
  | .nofuel => True

def Pres (go : RT → SCtx → SRes JsVal) (t : RT) : Prop := ∀ c, Good env o roots c → GoodRes env o roots (go t c)

variable {env o roots}

theorem good_marks {c : SCtx} (m : List String) (h : Good env o roots c) : Good env o roots { c with inProgress := m } := h

theorem good_store {c : SCtx} {name : String} {b : JsVal} (h : Good env o roots c) (hb : Body env o roots name b) :
    Good env o roots (c.store name b) :=
  forall_mem_setProp h hb

theorem GoodRes.bind {α β : Type} {r : SRes α} {k : α → SCtx → SRes β} (h : GoodRes env o roots r)
    (hk : ∀ a c, r = .ok a c → Good env o roots c → GoodRes env o roots (k a c)) : GoodRes env o roots (r.bind k) := by
  cases r with
  | ok a c => exact hk a c rfl h
  | throw e => exact h
  | nofuel => trivial

theorem GoodRes.ofOption {α : Type} {c : SCtx} (x : Option α) (g : Good env o roots c) : GoodRes env o roots (SRes.ofOption x c) := by
  cases x with
  | some a => rw [SRes.ofOption_some]; exact g
  | none => rw [SRes.ofOption_none]; exact g

section
variable {go : RT → SCtx → SRes JsVal}

theorem seqS_good (ts : List RT) : (∀ t ∈ ts, Pres env o roots go t) → ∀ c, Good env o roots c →
    GoodRes env o roots (seqS go ts c) := by
  induction ts with
  | nil => exact fun _ _ g => g
  | cons t ts ih =>
    intro h c g
    rw [seqS_cons]
    exact (h t (.head _) c g).bind fun _ c1 _ g1 => (ih (fun x hx => h x (.tail _ hx)) c1 g1).bind fun _ _ _ g2 => g2

theorem defineS_good {name : String} {target : RT} (hp : Pres env o roots go target)
    (hb : ∀ c b c', go target c = .ok b c' → Body env o roots name b) (c : SCtx) (g : Good env o roots c) :
    GoodRes env o roots (defineS go name target c) := by
  rw [defineS_eq]
  split
  · exact g
  · exact (hp _ (good_marks _ g)).bind fun body c2 e g2 => good_store g2 (hb _ _ _ e)

theorem variantsS_good {tgt : String × RT → String × Option RT} {template : String} (kvs : List (String × RT)) :
    (∀ kv ∈ kvs, ∀ t, (tgt kv).2 = some t →
      Pres env o roots go t ∧ ∀ c b c', go t c = .ok b c' → Body env o roots (tgt kv).1 b) →
    ∀ c, Good env o roots c → GoodRes env o roots (variantsS go tgt template kvs c) := by
  induction kvs with
  | nil => exact fun _ _ g => g
  | cons kv rest ih =>
    intro h c g
    rw [variantsS_cons]
    cases ht : (tgt kv).2 with
    | none => exact g
    | some target =>
      obtain ⟨hp, hb⟩ := h kv (.head _) target ht
      exact (defineS_good hp hb c g).bind fun _ c1 _ g1 =>
        (ih (fun x hx => h x (.tail _ hx)) c1 g1).bind fun _ _ _ g2 => g2

theorem layer_good {desc : Option String} {rt : RT} (h : ∀ t ∈ kids rt, Pres env o roots go t) :
    Pres env o roots (layer o go desc) rt := by
  intro c g
  rw [layer_eq]
  exact (seqS_good (order rt) (fun t ht => h t (mem_kids_of_order ht)) c g).bind fun _ _ _ g1 => .ofOption _ g1

end

theorem reach_stripDesc {t : RT} (h : Reach env o roots t) : Reach env o roots (stripDesc t) := by
  induction t using stripDesc.induct with
  | case1 d t ih => rw [stripDesc]; exact ih (.kid h (.head _))
  | case2 t ht => rw [stripDesc]; exact h; exact ht

/-- a named variant through its reference, an inline one as a child -/
theorem reach_variant {schemas : List RT} {key : String} {mp sm : List (String × RT)} {uh : Int} {kv : String × RT} {t : RT}
    (hr : Reach env o roots (.disc schemas key mp sm)) (hkv : kv ∈ sm) (ht : (variantTarget env o key uh sm kv).2 = some t) :
    Reach env o roots t := by
  have hkid : Reach env o roots kv.2 := .kid hr (List.mem_append_right _ (List.mem_map.2 ⟨kv, hkv, rfl⟩))
  have hstrip := reach_stripDesc hkid
  unfold variantTarget at ht
  split at ht
  · rename_i r hs
    rw [hs] at hstrip
    exact .named hstrip ht
  · cases ht; exact hkid

/-- **the invariant**: printing any reachable runtype into a good context leaves a good context — on success and on an
exception alike -/
theorem schema_preserves_good (hc : o.contextual = true) : ∀ (n : Nat) (rt : RT) (desc : Option String) (seen : List String)
    (c : SCtx), Reach env o roots rt → Good env o roots c → GoodRes env o roots (schema env o n rt desc seen c) := by
  intro n
  induction n with
  | zero => intro rt desc seen c _ _; trivial
  | succ n ih =>
    intro rt desc seen c hr g
    have goP : ∀ t, Reach env o roots t → Pres env o roots (schema env o n · none seen) t :=
      fun t ht c g => ih t none seen c ht g
    have goB : ∀ name t, Src env o roots name t → ∀ c b c', schema env o n t none seen c = .ok b c' → Body env o roots name b :=
      fun name t hs c b c' h => ⟨t, hs, n, seen, c, c', h⟩
    rcases layer_cases rt with ⟨dd, t, rfl⟩ | ⟨name, rfl⟩ | ⟨schemas, key, mp, sm, rfl⟩ | hp
    · exact ih t (some dd) seen c (.kid hr (.head _)) g
    · rw [schema_ref_ctx env o n desc seen hc]
      refine (GoodRes.ofOption _ g).bind fun to c1 e g1 => ?_
      have hnt := namedTarget_of_lookup o (SRes.ofOption_eq_ok e).1
      exact (defineS_good (goP _ (.named hr hnt)) (goB name _ (.named hr hnt)) c1 g1).bind fun _ _ _ g2 => g2
    · rw [schema_disc_ctx env o n desc seen hc]
      refine (GoodRes.ofOption _ g).bind fun uh c1 e g1 => GoodRes.bind ?_ fun _ _ _ g2 => g2
      refine variantsS_good sm (fun kv hkv t ht => ?_) c1 g1
      exact ⟨goP t (reach_variant hr hkv ht), goB _ t (.variant hr (SRes.ofOption_eq_ok e).1 hkv (Prod.ext rfl ht))⟩
    · rw [schema_plain env o n desc seen hp]
      exact layer_good (fun t ht => goP t (.kid hr ht)) c g

/-- **C16 (definitions)**: two good contexts that both define a name hold the same definition for it -/
theorem definitions_agree (hc : o.contextual = true) (hF : Functional env o roots) {c1 c2 : SCtx}
    (g1 : Good env o roots c1) (g2 : Good env o roots c2) {name : String} {b1 b2 : JsVal}
    (h1 : (name, b1) ∈ c1.collected) (h2 : (name, b2) ∈ c2.collected) : b1 = b2 := by
  obtain ⟨t1, s1, k1, seen1, x1, x1', e1⟩ := g1 _ h1
  obtain ⟨t2, s2, k2, seen2, x2, x2', e2⟩ := g2 _ h2
  have : t1 = t2 := hF name t1 t2 s1 s2
  subst this
  exact schema_value_independent env o hc k1 k2 t1 none seen1 seen2 x1 x2 b1 b2 x1' x2' e1 e2

end

/-- one `schemaWithContext` call: after an exception the marks are gone (the `finally` blocks), the stored definitions stay -/
def printInto (env : Env) (o : SOpts) (fuel : Nat) (c : SCtx) (rt : RT) : SCtx :=
  match schema env o fuel rt none [] c with
  | .ok _ c' => c'
  | .throw c' => { c' with inProgress := [] }
  | .nofuel => c

theorem printInto_ok {env : Env} {o : SOpts} {fuel : Nat} {c : SCtx} {rt : RT} {s : JsVal} {c' : SCtx}
    (h : schema env o fuel rt none [] c = .ok s c') : printInto env o fuel c rt = c' := by
  unfold printInto
  rw [h]

def runCalls (env : Env) (o : SOpts) (fuel : Nat) (calls : List RT) : SCtx :=
  calls.foldl (printInto env o fuel) ⟨[], []⟩

theorem good_runCalls {env : Env} {o : SOpts} {roots : List RT} (hc : o.contextual = true) (fuel : Nat) :
    ∀ (calls : List RT), (∀ t ∈ calls, t ∈ roots) → Good env o roots (runCalls env o fuel calls) := by
  have key : ∀ (calls : List RT) (c : SCtx), (∀ t ∈ calls, t ∈ roots) → Good env o roots c →
      Good env o roots (calls.foldl (printInto env o fuel) c) := by
    intro calls
    induction calls with
    | nil => exact fun _ _ g => g
    | cons t ts ih =>
      intro c h g
      refine ih _ (fun x hx => h x (.tail _ hx)) ?_
      have h1 := schema_preserves_good (roots := roots) hc fuel t none [] c (.root (h t (.head _))) g
      unfold printInto
      generalize schema env o fuel t none [] c = r at h1 ⊢
      cases r with
      | ok s c' => exact h1
      | throw c' => exact good_marks [] h1
      | nofuel => exact g
  exact fun calls h => key calls ⟨[], []⟩ h (fun _ hp => nomatch hp)

/-- **C16 (order independence of the definitions)**: take any two histories of `schemaWithContext` calls over the same
parsers — any order, any repetition, calls that throw in between, any fuel — on two contexts created alike. A name
defined at the end of both has the same definition in both. In particular (second history = the single call that prints
the type by itself into a fresh context) it is "the one a fresh context would produce for that type". -/
theorem export_order_independent {env : Env} {o : SOpts} {roots : List RT} (hc : o.contextual = true)
    (hF : Functional env o roots) (fuel1 fuel2 : Nat) (calls1 calls2 : List RT)
    (h1 : ∀ t ∈ calls1, t ∈ roots) (h2 : ∀ t ∈ calls2, t ∈ roots) {name : String} {b1 b2 : JsVal}
    (m1 : (name, b1) ∈ (runCalls env o fuel1 calls1).collected) (m2 : (name, b2) ∈ (runCalls env o fuel2 calls2).collected) :
    b1 = b2 :=
  definitions_agree hc hF (good_runCalls hc fuel1 calls1 h1) (good_runCalls hc fuel2 calls2 h2) m1 m2

/-- named types alone never clash: without a reachable discriminated union every name has one source (what can make
`Functional` false is a synthetic variant name only — D16b) -/
theorem functional_of_no_union {env : Env} {o : SOpts} {roots : List RT}
    (h : ∀ t, Reach env o roots t → ∀ s k m sm, t ≠ .disc s k m sm) : Functional env o roots := by
  intro name t1 t2 s1 s2
  cases s1 with
  | named _ h1 =>
    cases s2 with
    | named _ h2 => exact Option.some.inj (h1.symm.trans h2)
    | variant hr _ _ _ => exact absurd rfl (h _ hr _ _ _ _)
  | variant hr _ _ _ => exact absurd rfl (h _ hr _ _ _ _)

private def envL : Env := [("L", .object [("next", .optional (.ref "L"))] [])]
private def optsL : SOpts := ⟨true, "#/$defs/{name}", []⟩

private theorem functionalL : Functional envL optsL [.ref "L"] := by
  refine functional_of_no_union fun t ht => ?_
  have key : t = .ref "L" ∨ t = .object [("next", .optional (.ref "L"))] [] ∨ t = .optional (.ref "L") := by
    induction ht with
    | root hm => exact .inl (List.mem_singleton.1 hm)
    | kid _ hk ih =>
      rcases ih with rfl | rfl | rfl
      · cases hk
      · exact .inr (.inr (List.mem_singleton.1 hk))
      · exact .inl (List.mem_singleton.1 hk)
    | named _ hn ih =>
      rcases ih with h | h | h
      · cases h
        have hL : namedTarget envL optsL "L" = some (.object [("next", .optional (.ref "L"))] []) := rfl
        exact .inr (.inl (Option.some.inj (hn.symm.trans hL)))
      · cases h
      · cases h
  intro s k m sm e
  rcases key with h | h | h <;> cases h.symm.trans e

/-- a recursive type: the hypothesis holds, the context after one call holds one definition, and the theorem applies
to it (printing the type once or three times gives the same definition) -/
example : Functional envL optsL [.ref "L"] ∧ (runCalls envL optsL 50 [.ref "L"]).collected.length = 1 ∧
    (runCalls envL optsL 50 [.ref "L", .ref "L", .ref "L"]).collected.length = 1 :=
  ⟨functionalL, by decide +kernel, by decide +kernel⟩

end BeffVerif.C16O
