import BeffVerif.Props.C01Frag
import BeffVerif.Props.C08
/-!
# C08 — rewrites are invisible to the COMPILED validator on the structural fragment

`Props/C08.lean` shows that the listed rewrites do not change the reference meaning ⟦t⟧; `Props/C01Frag.lean` shows that on
the structural fragment the compiled validator (frontend lowering → printer → runtime `validate`; without unions and
intersections `any_of` / `all_of` are never reached) never disagrees with ⟦t⟧. Together: two fragment types with the same
meaning compile to validators that give the same answer (`frag_same_meaning_same_validator`), in particular

* `frag_property_order_invisible` — an object type and the same object type with its properties in another order (stated
  for the root of the type);
* `frag_paren_invisible`, `frag_readonly_invisible` — parentheses and `readonly`.

Each statement is "whenever both validators and the reference answer" (the model's validators and reference carry fuel).
-/
namespace BeffVerif.C08F
open BeffVerif C01F

/-- same meaning, same compiled answers -/
theorem frag_same_meaning_same_validator (t1 t2 : Ty) (hf1 : Frag t1) (hf2 : Frag t2) (v : JsVal) (sf1 sf2 : Nat) (c : Bool)
    (hs1 : Spec.mem [] sf1 t1 v = some c) (hs2 : Spec.mem [] sf2 t2 v = some c) (b1 b2 : Bool)
    (h1 : C01.compiledAccepts t1 v = some b1) (h2 : C01.compiledAccepts t2 v = some b2) : b1 = b2 :=
  (fragment_exact t1 hf1 v sf1 b1 c h1 hs1).trans (fragment_exact t2 hf2 v sf2 b2 c h2 hs2).symm

/-- reordering the properties of an object type does not change the compiled validator -/
theorem frag_property_order_invisible (ms ms' : List (String × Bool × Ty)) (hp : ms.Perm ms')
    (hf : Frag (.obj ms none)) (v : JsVal) (sf : Nat) (c : Bool) (hs : Spec.mem [] (sf + 1) (.obj ms none) v = some c)
    (b1 b2 : Bool) (h1 : C01.compiledAccepts (.obj ms none) v = some b1) (h2 : C01.compiledAccepts (.obj ms' none) v = some b2) :
    b1 = b2 := by
  cases hf with
  | obj _ hn hm =>
    have hn' : (ms'.map (·.1)).Nodup := (hp.map _).nodup_iff.1 hn
    have hf' : Frag (.obj ms' none) := .obj ms' hn' (fun m hm' => hm m (hp.mem_iff.2 hm'))
    have hs' : Spec.mem [] (sf + 1) (.obj ms' none) v = some c := by
      rw [← hs, mem_obj sf ms hn, mem_obj sf ms' hn']
      -- `andFold` unfolds to a fold with step `C08.andO`
      exact congrArg _ (C08.foldl_andO_perm (memProp sf v) hp.symm (some true))
    exact frag_same_meaning_same_validator _ _ (.obj ms hn hm) hf' v _ _ c hs hs' b1 b2 h1 h2

/-- parentheses do not change the compiled validator -/
theorem frag_paren_invisible (t : Ty) (hf : Frag t) (v : JsVal) (sf : Nat) (c : Bool) (hs : Spec.mem [] sf t v = some c)
    (b1 b2 : Bool) (h1 : C01.compiledAccepts t v = some b1) (h2 : C01.compiledAccepts (.paren t) v = some b2) : b1 = b2 :=
  frag_same_meaning_same_validator t (.paren t) hf (.paren t hf) v sf (sf + 1) c hs
    (by rw [C08.spec_paren]; exact hs) b1 b2 h1 h2

/-- `readonly` does not change the compiled validator -/
theorem frag_readonly_invisible (t : Ty) (hf : Frag t) (v : JsVal) (sf : Nat) (c : Bool) (hs : Spec.mem [] sf t v = some c)
    (b1 b2 : Bool) (h1 : C01.compiledAccepts t v = some b1) (h2 : C01.compiledAccepts (.readonly t) v = some b2) : b1 = b2 :=
  frag_same_meaning_same_validator t (.readonly t) hf (.readonly t hf) v sf (sf + 1) c hs
    (by rw [C08.spec_readonly]; exact hs) b1 b2 h1 h2

end BeffVerif.C08F
