import BeffVerif.Props.C16Order
/-!
# C16 — which names a shared printing context ends up defining does not depend on the order of the calls

`Mentions rt N t`: printing `rt` asks (directly, without following a definition) for a definition of `N` with schema
source `t`. `CReach roots rt`: `rt` is met when the parsers `roots` are printed in contextual mode (children, and the
schema sources of mentioned names). For call histories in which every call returns (no exception, fuel left):

* `names_sound`: every defined name is mentioned by a reachable runtype;
* `names_complete`: every name mentioned by a reachable runtype is defined — the depth-first traversal with in-progress
  marks loses nothing: the invariant `WC` says the mentions of a stored name's source are stored or in progress;
* `names_order_independent`: two histories over the same set of parsers define exactly the same names. With
  `export_order_independent` (same definitions): the exported definitions are the same whatever the order of the calls.
-/
namespace BeffVerif.C16N
open BeffVerif RT JsVal C16O

/-- what `schema` recurses into directly in contextual mode (a discriminated union only through its variants' definitions) -/
def ckids : RT → List RT
  | .described _ t => [t]
  | .tuple pre rest => pre ++ (match rest with | some r => [r] | none => [])
  | .allOf ts => ts
  | .anyOf ts => ts
  | .array t => [t]
  | .optional t => [t]
  | .object props ix => props.map (·.2) ++ (ix.map (·.1) ++ ix.map (·.2))
  | _ => []

section
variable (env : Env) (o : SOpts)

inductive Mentions : RT → String → RT → Prop
  | ref {name : String} {to t : RT} : env.lookup name = some to → namedTarget env o name = some t → Mentions (.ref name) name t
  | variant {schemas : List RT} {key : String} {mp sm : List (String × RT)} {uh : Int} {kv : String × RT} {name : String}
      {t : RT} : hash env 200 (.disc schemas key mp sm) [] = some uh → kv ∈ sm →
      variantTarget env o key uh sm kv = (name, some t) → Mentions (.disc schemas key mp sm) name t
  | kid {rt c : RT} {name : String} {t : RT} : c ∈ ckids rt → Mentions c name t → Mentions rt name t

def MentionsOf (ts : List RT) (N : String) (tt : RT) : Prop := ∃ t ∈ ts, Mentions env o t N tt

variable (roots : List RT)

inductive CReach : RT → Prop
  | root {t : RT} : t ∈ roots → CReach t
  | kid {rt t : RT} : CReach rt → t ∈ ckids rt → CReach t
  | target {rt : RT} {name : String} {t : RT} : CReach rt → Mentions env o rt name t → CReach t

/-- a name has one schema source among the reachable runtypes -/
def Functional' : Prop :=
  ∀ rt1 rt2 name t1 t2, CReach env o roots rt1 → CReach env o roots rt2 → Mentions env o rt1 name t1 → Mentions env o rt2 name t2 → t1 = t2

/-- the mentions of every stored name's source are stored or in progress -/
def WC (c : SCtx) : Prop :=
  ∀ N, c.has N = true → ∀ rt t, CReach env o roots rt → Mentions env o rt N t →
    ∀ M t', Mentions env o t M t' → c.has M = true ∨ M ∈ c.inProgress

/-- every stored name is mentioned by a reachable runtype -/
def Snd (c : SCtx) : Prop := ∀ N, c.has N = true → ∃ rt t, CReach env o roots rt ∧ Mentions env o rt N t

def Inv (c : SCtx) : Prop := WC env o roots c ∧ Snd env o roots c

/-- what a successful print of something whose mentions are `P` guarantees -/
def Post (c c' : SCtx) (P : String → RT → Prop) : Prop :=
  Inv env o roots c' ∧ c'.inProgress = c.inProgress ∧ (∀ N, c.has N = true → c'.has N = true) ∧
    ∀ N t, P N t → c'.has N = true ∨ N ∈ c.inProgress

def Vis (go : RT → SCtx → SRes JsVal) (t : RT) : Prop :=
  ∀ c s c', go t c = .ok s c' → Inv env o roots c → Post env o roots c c' (Mentions env o t)

end

section
variable {env : Env} {o : SOpts} {roots : List RT}

theorem post_refl {c : SCtx} (h : Inv env o roots c) : Post env o roots c c (fun _ _ => False) :=
  ⟨h, rfl, fun _ h => h, fun _ _ f => f.elim⟩

/-- two prints in a row -/
theorem post_trans {c c1 c2 : SCtx} {P Q : String → RT → Prop} (h1 : Post env o roots c c1 P) (h2 : Post env o roots c1 c2 Q) :
    Post env o roots c c2 (fun N t => P N t ∨ Q N t) := by
  obtain ⟨_, ip1, mono1, m1⟩ := h1
  obtain ⟨i2, ip2, mono2, m2⟩ := h2
  refine ⟨i2, ip2.trans ip1, fun N h => mono2 N (mono1 N h), ?_⟩
  intro N t h
  rcases h with h | h
  · rcases m1 N t h with h | h
    · exact Or.inl (mono2 N h)
    · exact Or.inr h
  · rcases m2 N t h with h | h
    · exact Or.inl h
    · exact Or.inr (ip1 ▸ h)

theorem post_mono {c c' : SCtx} {P Q : String → RT → Prop} (h : Post env o roots c c' P) (hq : ∀ N t, Q N t → P N t) :
    Post env o roots c c' Q :=
  ⟨h.1, h.2.1, h.2.2.1, fun N t q => h.2.2.2 N t (hq N t q)⟩

section
variable {go : RT → SCtx → SRes JsVal}

theorem seqS_post (ts : List RT) : (∀ t ∈ ts, Vis env o roots go t) →
    ∀ c ss c', seqS go ts c = .ok ss c' → Inv env o roots c → Post env o roots c c' (MentionsOf env o ts) := by
  induction ts with
  | nil => intro _ c ss c' h hi; cases h; exact post_mono (post_refl hi) (fun _ _ ⟨_, hx, _⟩ => nomatch hx)
  | cons t ts ih =>
    intro hv c ss c' h hi
    rw [seqS_cons] at h
    obtain ⟨s, c1, e1, h⟩ := SRes.bind_eq_ok h
    obtain ⟨ss, c2, e2, h⟩ := SRes.bind_eq_ok h
    cases h
    have p1 := hv t (.head _) c s c1 e1 hi
    have p2 := ih (fun x hx => hv x (.tail _ hx)) c1 ss _ e2 p1.1
    refine post_mono (post_trans p1 p2) ?_
    rintro N tt ⟨x, hx, hm⟩
    rcases List.mem_cons.1 hx with rfl | hx
    · exact Or.inl hm
    · exact Or.inr ⟨x, hx, hm⟩

end

theorem filter_ne_append_self {l : List String} {name : String} (h : name ∉ l) : (l ++ [name]).filter (· != name) = l := by
  rw [List.filter_append, List.filter_eq_self.2 fun a ha => bne_iff_ne.2 fun (e : a = name) => h (e ▸ ha),
    List.filter_cons_of_neg (by simp), List.filter_nil, List.append_nil]

/-- the "define a name once" protocol: after it, the name is stored or was in progress, and the invariant holds -/
theorem defineS_post (hF : Functional' env o roots) {go : RT → SCtx → SRes JsVal} {node : RT} {name : String} {target : RT}
    (hr : CReach env o roots node) (hm : Mentions env o node name target) (hv : Vis env o roots go target)
    (c : SCtx) (u : Unit) (c' : SCtx) (h : defineS go name target c = .ok u c') (hi : Inv env o roots c) :
    Post env o roots c c' (fun N _ => N = name) := by
  rw [defineS_eq] at h
  split at h
  · rename_i hb
    cases h
    refine ⟨hi, rfl, fun _ h => h, ?_⟩
    rintro N t rfl
    simp only [Bool.or_eq_true, List.contains_iff_mem] at hb
    exact hb
  · rename_i hb
    simp only [Bool.or_eq_true, not_or, Bool.not_eq_true, List.contains_iff_mem] at hb
    obtain ⟨body, c2, e1, h⟩ := SRes.bind_eq_ok h
    cases h
    have hi1 : Inv env o roots { c with inProgress := c.inProgress ++ [name] } :=
      ⟨fun N hN rt t hrt hmt M t' hmm => (hi.1 N hN rt t hrt hmt M t' hmm).imp_right (List.mem_append_left _), hi.2⟩
    obtain ⟨i2, ip2, mono2, m2⟩ := hv _ body c2 e1 hi1
    have hip : (c2.store name body).inProgress = c.inProgress := by
      show c2.inProgress.filter (· != name) = c.inProgress
      rw [ip2]
      exact filter_ne_append_self hb.2
    have step : ∀ M, c2.has M = true ∨ M ∈ c.inProgress ++ [name] → (c2.store name body).has M = true ∨ M ∈ c.inProgress := by
      intro M h
      rcases h with h | h
      · exact Or.inl (C16.store_keeps _ _ _ _ h)
      · rcases List.mem_append.1 h with h | h
        · exact Or.inr h
        · cases List.mem_singleton.1 h
          exact Or.inl (C16.store_defines _ _ _)
    refine ⟨⟨?_, ?_⟩, hip, fun N hN => C16.store_keeps _ _ _ _ (mono2 N hN), ?_⟩
    · intro N hN rt t hrt hmt M t' hmm
      rw [hip]
      rcases C16.has_store hN with hN2 | rfl
      · have := i2.1 N hN2 rt t hrt hmt M t' hmm
        rw [ip2] at this
        exact step M this
      · cases hF rt node N t target hrt hr hmt hm
        exact step M (m2 M t' hmm)
    · intro N hN
      rcases C16.has_store hN with hN2 | rfl
      · exact i2.2 N hN2
      · exact ⟨node, target, hr, hm⟩
    · rintro N t rfl
      exact Or.inl (C16.store_defines _ _ _)

section
variable {go : RT → SCtx → SRes JsVal}

theorem variantsS_post (hF : Functional' env o roots) {tgt : String × RT → String × Option RT}
    {template : String} {node : RT} (hr : CReach env o roots node) (kvs : List (String × RT)) :
    (∀ kv ∈ kvs, ∀ t, (tgt kv).2 = some t → Mentions env o node (tgt kv).1 t ∧ Vis env o roots go t) →
    ∀ c r c', variantsS go tgt template kvs c = .ok r c' → Inv env o roots c →
      Post env o roots c c' (fun N _ => ∃ kv ∈ kvs, ∃ t, tgt kv = (N, some t)) := by
  induction kvs with
  | nil => intro _ c r c' h hi; cases h; exact post_mono (post_refl hi) (fun _ _ ⟨_, hx, _⟩ => nomatch hx)
  | cons kv rest ih =>
    intro hv c r c' h hi
    rw [variantsS_cons] at h
    split at h
    · cases h
    · rename_i target ht
      obtain ⟨hm, hvis⟩ := hv kv (.head _) target ht
      obtain ⟨u, c1, e1, h⟩ := SRes.bind_eq_ok h
      obtain ⟨refs, c2, e2, h⟩ := SRes.bind_eq_ok h
      cases h
      have p1 := defineS_post hF hr hm hvis c u c1 e1 hi
      have p2 := ih (fun x hx => hv x (.tail _ hx)) c1 refs _ e2 p1.1
      refine post_mono (post_trans p1 p2) ?_
      rintro N tt ⟨x, hx, t, hxt⟩
      rcases List.mem_cons.1 hx with rfl | hx
      · exact Or.inl (congrArg Prod.fst hxt).symm
      · exact Or.inr ⟨x, hx, t, hxt⟩

theorem Mentions.of_kid {rt : RT} {N : String} {tt : RT} (hm : Mentions env o rt N tt) (h1 : ∀ name, rt ≠ .ref name)
    (h2 : ∀ schemas key mp sm, rt ≠ .disc schemas key mp sm) : MentionsOf env o (ckids rt) N tt := by
  cases hm with
  | ref _ _ => exact absurd rfl (h1 _)
  | variant _ _ _ => exact absurd rfl (h2 _ _ _ _)
  | kid hk hm => exact ⟨_, hk, hm⟩

theorem mem_order {rt t : RT} (hp : plain rt = true) : t ∈ order rt ↔ t ∈ ckids rt := by
  cases rt with
  | tuple pre rest => cases rest <;> exact Iff.rfl
  | object props ix => exact List.mem_append.trans ((or_congr_right mem_flatMap_pair).trans List.mem_append.symm)
  | described _ _ => cases hp
  | _ => exact Iff.rfl

theorem layer_post {desc : Option String} {rt : RT} (hp : plain rt = true) (hv : ∀ t ∈ ckids rt, Vis env o roots go t) :
    Vis env o roots (layer o go desc) rt := by
  intro c s c' h hi
  rw [layer_eq] at h
  obtain ⟨vals, c1, e1, h⟩ := SRes.bind_eq_ok h
  cases (SRes.ofOption_eq_ok h).2
  refine post_mono (seqS_post (order rt) (fun t ht => hv t ((mem_order hp).1 ht)) c vals _ e1 hi) fun N tt hm => ?_
  obtain ⟨t, ht, hm⟩ := hm.of_kid (fun _ e => by subst e; cases hp) (fun _ _ _ _ e => by subst e; cases hp)
  exact ⟨t, (mem_order hp).2 ht, hm⟩

end

/-- **the traversal loses nothing**: a print that returns leaves the invariant, the marks as they were, keeps every stored
name, and has stored (or found in progress) every name the runtype mentions -/
theorem visit (hc : o.contextual = true) (hF : Functional' env o roots) : ∀ (n : Nat) (rt : RT) (desc : Option String)
    (seen : List String) (c : SCtx) (s : JsVal) (c' : SCtx), CReach env o roots rt →
    schema env o n rt desc seen c = .ok s c' → Inv env o roots c → Post env o roots c c' (Mentions env o rt) := by
  intro n
  induction n with
  | zero => intro rt desc seen c s c' _ h; cases h
  | succ n ih =>
    intro rt desc seen c s c' hr h hi
    have goV : ∀ t, CReach env o roots t → Vis env o roots (schema env o n · none seen) t :=
      fun t ht c s c' h hi => ih t none seen c s c' ht h hi
    rcases layer_cases rt with ⟨dd, t, rfl⟩ | ⟨name, rfl⟩ | ⟨schemas, key, mp, sm, rfl⟩ | hp
    · refine post_mono (ih t (some dd) seen c s c' (.kid hr (.head _)) h hi) fun N tt hm => ?_
      obtain ⟨x, hx, hm⟩ := hm.of_kid (fun _ e => by cases e) (fun _ _ _ _ e => by cases e)
      exact List.mem_singleton.1 hx ▸ hm
    · obtain ⟨to, hl, e1, _⟩ := schema_ref_ok hc h
      have hm : Mentions env o (.ref name) name (refTarget o name to) := .ref hl (namedTarget_of_lookup o hl)
      refine post_mono (defineS_post hF hr hm (goV _ (.target hr hm)) c () c' e1 hi) fun N tt hmm => ?_
      cases hmm with
      | ref _ _ => rfl
      | kid hk _ => nomatch hk
    · obtain ⟨uh, refs, hh, e1, _⟩ := schema_disc_ok hc h
      refine post_mono (variantsS_post hF hr sm (fun kv hkv t ht => ?_) c refs c' e1 hi) fun N tt hmm => ?_
      · have hm : Mentions env o (.disc schemas key mp sm) _ t := .variant hh hkv (Prod.ext rfl ht)
        exact ⟨hm, goV t (.target hr hm)⟩
      · cases hmm with
        | variant hh' hkv ht => cases hh.symm.trans hh'; exact ⟨_, hkv, _, ht⟩
        | kid hk _ => nomatch hk
    · rw [schema_plain env o n desc seen hp] at h
      exact layer_post hp (fun t ht => goV t (.kid hr ht)) c s c' h hi

end

/-- every call of the history returns a schema (no exception, fuel left) -/
def AllOk (env : Env) (o : SOpts) (fuel : Nat) : SCtx → List RT → Prop
  | _, [] => True
  | c, t :: ts => ∃ s c', schema env o fuel t none [] c = .ok s c' ∧ AllOk env o fuel c' ts

theorem creach_mono {env : Env} {o : SOpts} {r1 r2 : List RT} (h : ∀ t, t ∈ r1 → t ∈ r2) {rt : RT}
    (hr : CReach env o r1 rt) : CReach env o r2 rt := by
  induction hr with
  | root hm => exact .root (h _ hm)
  | kid _ hk ih => exact .kid ih hk
  | target _ hm ih => exact .target ih hm

theorem inv_empty (env : Env) (o : SOpts) (roots : List RT) : Inv env o roots ⟨[], []⟩ :=
  ⟨fun _ h => (nomatch h), fun _ h => (nomatch h)⟩

theorem AllOk.seqS {env : Env} {o : SOpts} {fuel : Nat} {calls : List RT} : ∀ {c : SCtx}, AllOk env o fuel c calls →
    ∃ ss, seqS (schema env o fuel · none []) calls c = .ok ss (calls.foldl (printInto env o fuel) c) := by
  induction calls with
  | nil => exact fun _ => ⟨[], rfl⟩
  | cons t ts ih =>
    intro c ⟨s, c1, e1, hok⟩
    obtain ⟨ss, e2⟩ := ih hok
    exact ⟨s :: ss, by rw [seqS_cons, e1, SRes.ok_bind, e2, SRes.ok_bind, List.foldl_cons, printInto_ok e1]⟩

theorem run_post {env : Env} {o : SOpts} {roots : List RT} (hc : o.contextual = true) (hF : Functional' env o roots)
    {fuel : Nat} {calls : List RT} {c : SCtx} (hr : ∀ t ∈ calls, t ∈ roots) (hok : AllOk env o fuel c calls)
    (hi : Inv env o roots c) : Post env o roots c (calls.foldl (printInto env o fuel) c) (MentionsOf env o calls) := by
  obtain ⟨ss, e⟩ := hok.seqS
  exact seqS_post calls (fun t ht c s c' h => visit hc hF fuel t none [] c s c' (.root (hr t ht)) h) c ss _ e hi

/-- **sound**: a name defined at the end of such a history is mentioned by a runtype the calls reach -/
theorem names_sound {env : Env} {o : SOpts} (hc : o.contextual = true) (fuel : Nat) (calls : List RT)
    (hF : Functional' env o calls) (hok : AllOk env o fuel ⟨[], []⟩ calls) {N : String}
    (h : (runCalls env o fuel calls).has N = true) : ∃ rt t, CReach env o calls rt ∧ Mentions env o rt N t :=
  (run_post hc hF (fun _ h => h) hok (inv_empty env o calls)).1.2 N h

/-- **complete**: every name mentioned by a runtype the calls reach is defined at the end -/
theorem names_complete {env : Env} {o : SOpts} (hc : o.contextual = true) (fuel : Nat) (calls : List RT)
    (hF : Functional' env o calls) (hok : AllOk env o fuel ⟨[], []⟩ calls) {rt : RT} (hr : CReach env o calls rt)
    {N : String} {t : RT} (hm : Mentions env o rt N t) : (runCalls env o fuel calls).has N = true := by
  obtain ⟨⟨wc, _⟩, hp, _, stored⟩ := run_post hc hF (fun _ h => h) hok (inv_empty env o calls)
  have key : ∀ rt, CReach env o calls rt → ∀ N t, Mentions env o rt N t → (runCalls env o fuel calls).has N = true := by
    intro rt hr
    induction hr with
    | root hmem => exact fun N t hm => (stored N t ⟨_, hmem, hm⟩).resolve_right List.not_mem_nil
    | kid _ hk ih => exact fun N t hm => ih N t (.kid hk hm)
    | @target rt' name t' hr' hm' ih =>
      intro N t hm
      have hn := ih name t' hm'
      rcases wc name hn rt' t' hr' hm' N t hm with h | h
      · exact h
      · rw [hp] at h; cases h
  exact key rt hr N t hm

/-- **C16 (the set of names)**: two histories over the same SET of parsers, every call returning, define exactly the same
names — whatever the order and however often a parser is printed -/
theorem names_order_independent {env : Env} {o : SOpts} (hc : o.contextual = true) (fuel1 fuel2 : Nat) (calls1 calls2 : List RT)
    (hsame : ∀ t, t ∈ calls1 ↔ t ∈ calls2) (hF : Functional' env o calls1)
    (hok1 : AllOk env o fuel1 ⟨[], []⟩ calls1) (hok2 : AllOk env o fuel2 ⟨[], []⟩ calls2) (N : String) :
    (runCalls env o fuel1 calls1).has N = true ↔ (runCalls env o fuel2 calls2).has N = true := by
  have hF2 : Functional' env o calls2 := fun rt1 rt2 name t1 t2 h1 h2 m1 m2 =>
    hF rt1 rt2 name t1 t2 (creach_mono (fun t h => (hsame t).2 h) h1) (creach_mono (fun t h => (hsame t).2 h) h2) m1 m2
  constructor
  · intro h
    obtain ⟨rt, t, hr, hm⟩ := names_sound hc fuel1 calls1 hF hok1 h
    exact names_complete hc fuel2 calls2 hF2 hok2 (creach_mono (fun t h => (hsame t).1 h) hr) hm
  · intro h
    obtain ⟨rt, t, hr, hm⟩ := names_sound hc fuel2 calls2 hF2 hok2 h
    exact names_complete hc fuel1 calls1 hF hok1 (creach_mono (fun t h => (hsame t).2 h) hr) hm

/-- **no definition is left unfinished**: after a history of returning calls no name is in progress -/
theorem no_mark_left {env : Env} {o : SOpts} (hc : o.contextual = true) (fuel : Nat) (calls : List RT)
    (hF : Functional' env o calls) (hok : AllOk env o fuel ⟨[], []⟩ calls) : (runCalls env o fuel calls).inProgress = [] :=
  (run_post hc hF (fun _ h => h) hok (inv_empty env o calls)).2.1

/-- without a reachable discriminated union every mention is a reference to a named type, whose source is a function of
the name: `Functional'` can fail only through a synthetic variant name (D16b) -/
theorem functionalN_of_no_union {env : Env} {o : SOpts} {roots : List RT}
    (h : ∀ t, CReach env o roots t → ∀ s k m sm, t ≠ .disc s k m sm) : Functional' env o roots := by
  have key : ∀ rt name t, Mentions env o rt name t → CReach env o roots rt → namedTarget env o name = some t := by
    intro rt name t hm
    induction hm with
    | ref _ hnt => exact fun _ => hnt
    | variant _ _ _ => exact fun hr => absurd rfl (h _ hr _ _ _ _)
    | kid hk _ ih => exact fun hr => ih (.kid hr hk)
  intro rt1 rt2 name t1 t2 h1 h2 m1 m2
  exact Option.some.inj ((key rt1 name t1 m1 h1).symm.trans (key rt2 name t2 m2 h2))

private def envT : Env := [("A", .object [("b", .optional (.ref "B"))] []), ("B", .object [("a", .array (.ref "A"))] [])]
private def optsT : SOpts := ⟨true, "#/$defs/{name}", []⟩

/-- two mutually recursive types printed in either order: both histories return, and define both names -/
example :
    (match schema envT optsT 50 (.ref "A") none [] ⟨[], []⟩ with
      | .ok _ c => (match schema envT optsT 50 (.ref "B") none [] c with
        | .ok _ c' => c'.has "A" && c'.has "B" && c'.inProgress.isEmpty && c'.collected.length == 2
        | _ => false)
      | _ => false) = true ∧
    (match schema envT optsT 50 (.ref "B") none [] ⟨[], []⟩ with
      | .ok _ c => c.has "A" && c.has "B" && c.inProgress.isEmpty
      | _ => false) = true := by decide +kernel

end BeffVerif.C16N
