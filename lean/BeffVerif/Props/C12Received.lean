import BeffVerif.Lemmas.RT
/-!
# C12 — the value recorded in an error is the input value at the error's path

`At v rel w`: following the path segments `rel` from the value `v` leads to `w` — `[i]` into an array, a key into an
object (own or inherited, what `input[k]` reads), `key(…)` / `value(…)` / `item(…)` into a Map / Set entry whose key /
item prints as `…`, and — the one place where the runtime records something else than the value — the KEY itself for an
error of an index signature's key type.

`report_received_located`: for every environment, mode, fuel, runtype, path and value, every error returned by
`reportDecodeError ctx(path)` on `v` has a path `path ++ rel` and a received value `w` with `At v rel w`; the errors
nested in a union error are located the same way relative to the union's own received value, at every depth.
-/
namespace BeffVerif.C12
open BeffVerif RT

abbrev idxSeg (i : Nat) : String := "[" ++ JsVal.natToCanon i ++ "]"
abbrev js (v : JsVal) : String := (jsonStringify 100 v).getD "undefined"

inductive At : JsVal → List String → JsVal → Prop
  | here (v : JsVal) : At v [] v
  | index (items : List JsVal) (i : Nat) (rest : List String) (w : JsVal) :
      At (items.getD i .undef) rest w → At (.arr items) (idxSeg i :: rest) w
  | prop (v : JsVal) (k : String) (rest : List String) (w : JsVal) : At (v.getProp k) rest w → At v (k :: rest) w
  -- an error of an index signature's KEY type: what is recorded at segment `k` is the string `k`, not `v[k]`
  | key (v : JsVal) (k : String) (rest : List String) (w : JsVal) : k ∈ v.ownKeys → At (.str k) rest w → At v (k :: rest) w
  | mapKey (es : List (JsVal × JsVal)) (e : JsVal × JsVal) (rest : List String) (w : JsVal) : e ∈ es →
      At e.1 rest w → At (.map es) (("key(" ++ js e.1 ++ ")") :: rest) w
  | mapVal (es : List (JsVal × JsVal)) (e : JsVal × JsVal) (rest : List String) (w : JsVal) : e ∈ es →
      At e.2 rest w → At (.map es) (("value(" ++ js e.1 ++ ")") :: rest) w
  | setItem (xs : List JsVal) (x : JsVal) (rest : List String) (w : JsVal) : x ∈ xs →
      At x rest w → At (.set xs) (("item(" ++ js x ++ ")") :: rest) w

mutual
/-- the error is located at `base ++ rel` below `v`, and records the value found there -/
def Loc : List String → JsVal → DErr → Prop
  | base, v, .regular _ p r => ∃ rel, p = base ++ rel ∧ At v rel r
  | base, v, .union p r es => ∃ rel, p = base ++ rel ∧ At v rel r ∧ LocL r es
/-- nested errors of a union error: relative to the union's received value -/
def LocL : JsVal → List DErr → Prop
  | _, [] => True
  | r, e :: es => Loc [] r e ∧ LocL r es
end

theorem locL_iff (r : JsVal) (es : List DErr) : LocL r es ↔ ∀ e ∈ es, Loc [] r e := by
  induction es with
  | nil => simp [LocL]
  | cons e es ih => simp [LocL, ih]

theorem loc_buildError (path : List String) (msg : String) (v : JsVal) : ∀ e ∈ buildError path msg v, Loc path v e := by
  intro e he
  simp only [buildError, List.mem_singleton] at he
  subst he
  exact ⟨[], by simp, .here v⟩

/-- moving the base one segment up -/
theorem loc_step {path : List String} {seg : String} {x v : JsVal} {e : DErr}
    (hstep : ∀ rel w, At x rel w → At v (seg :: rel) w) (h : Loc (path ++ [seg]) x e) : Loc path v e := by
  cases e with
  | regular m p r =>
    obtain ⟨rel, hp, hat⟩ := h
    exact ⟨seg :: rel, by rw [hp]; simp, hstep rel r hat⟩
  | union p r es =>
    obtain ⟨rel, hp, hat, hl⟩ := h
    exact ⟨seg :: rel, by rw [hp]; simp, hstep rel r hat, hl⟩

theorem loc_prepend {path : List String} {v : JsVal} {e : DErr} (h : Loc [] v e) : Loc path v (prependPath path e) := by
  cases e with
  | regular m p r =>
    obtain ⟨rel, hp, hat⟩ := h
    exact ⟨rel, by simp only [hp, List.nil_append], hat⟩
  | union p r es =>
    obtain ⟨rel, hp, hat, hl⟩ := h
    exact ⟨rel, by simp only [hp, List.nil_append], hat, hl⟩

theorem mem_dedupErrors (errors : List DErr) : ∀ e ∈ dedupErrors errors, e ∈ errors := by
  unfold dedupErrors
  refine List.foldlRecOn errors _ (motive := fun (acc : List String × List DErr) => ∀ e ∈ acc.2, e ∈ errors)
    (fun _ h => (nomatch h)) fun acc hacc x hx => ?_
  have hpush : ∀ e ∈ acc.2 ++ [x], e ∈ errors := fun e he =>
    (List.mem_append.1 he).elim (hacc e) fun h => List.mem_singleton.1 h ▸ hx
  split
  · exact hpush
  · dsimp only
    split
    · exact hacc
    · exact hpush

theorem loc_buildUnionError (path : List String) (es : List DErr) (v : JsVal) (h : ∀ e ∈ es, Loc [] v e) :
    ∀ e ∈ buildUnionError path es v, Loc path v e := by
  intro e he
  unfold buildUnionError at he
  simp only at he
  have hd : ∀ d ∈ dedupErrors es, Loc [] v d := fun d hd => h d (mem_dedupErrors es d hd)
  split at he
  · rename_i d hdd
    simp only [List.mem_singleton] at he
    subst he
    exact loc_prepend (hd d (by rw [hdd]; simp))
  · simp only [List.mem_singleton] at he
    subst he
    exact ⟨[], by simp, .here v, (locL_iff v _).2 hd⟩

theorem zip_range_getD {α : Type} (l : List α) (d : α) : ∀ (x : α) (i : Nat), (x, i) ∈ l.zip (List.range l.length) →
    l.getD i d = x := by
  intro x i h
  obtain ⟨k, hk, hk'⟩ := List.mem_iff_getElem.1 h
  simp only [List.getElem_zip, List.getElem_range, Prod.mk.injEq] at hk'
  obtain ⟨h1, h2⟩ := hk'
  subst h2
  simp only [List.length_zip, List.length_range, Nat.min_self] at hk
  simp [List.getD, hk, h1]

/-- `T`: what may be thrown — anything for `report_received_located`, nothing (closed environment) for `C03.report_no_throw` -/
theorem reportStep_loc {T : String → Prop} (env : Env) (strict : Bool) {vf : RT → JsVal → Res Bool}
    {rf : RT → List String → JsVal → Res (List DErr)} (rt : RT) (path : List String) (v : JsVal)
    (hvf : ∀ t, Child env rt t → ∀ x, (vf t x).Holds (fun _ => True) T)
    (hrf : ∀ t, Child env rt t → ∀ p x, (rf t p x).Holds (fun es => ∀ e ∈ es, Loc p x e) T)
    (href : ∀ name, rt = .ref name → env.lookup name = none → T "TypeError") :
    (reportStep env strict vf rf rt path v).Holds (fun es => ∀ e ∈ es, Loc path v e) T := by
  have item : ∀ {t}, Child env rt t → ∀ (seg : String) (x : JsVal), (∀ rel w, At x rel w → At v (seg :: rel) w) →
      (reportItem vf rf path t seg x).Holds (fun es => ∀ e ∈ es, Loc path v e) T :=
    fun ht seg x hstep => holds_reportItem (hvf _ ht x) (fun _ h => nomatch h)
      ((hrf _ ht _ x).mono fun _ h e he => loc_step hstep (h e he))
  cases rt with
  | tuple pre rest =>
    cases v with
    | arr items =>
      have hzip : ∀ p ∈ (items.zip (List.range items.length)).drop pre.length, ∀ rel w, At p.1 rel w →
          At (.arr items) (idxSeg p.2 :: rel) w := fun p hp rel w hw =>
        At.index items p.2 rel w (zip_range_getD items .undef p.1 p.2 (List.mem_of_mem_drop hp) ▸ hw)
      refine Res.Holds.seqErrs (holds_concatRes fun p hp => item (.tuplePre (List.of_mem_zip hp).1) _ _
        fun rel w hw => At.index items p.2 rel w hw) fun e1 h1 => ?_
      cases rest with
      | none =>
        intro d hd
        rcases List.mem_append.1 hd with hd | hd
        · exact h1 d hd
        · obtain ⟨p, hpm, hp⟩ := List.mem_flatMap.1 hd
          exact loc_step (hzip p hpm) (loc_buildError _ _ _ d hp)
      | some r =>
        exact Res.Holds.seqErrs (holds_concatRes fun p hp => item .tupleRest _ p.1 (hzip p hp))
          fun e2 h2 d hd => (List.mem_append.1 hd).elim (h1 d) (h2 d)
    | _ => exact loc_buildError _ _ _
  | allOf ts => exact holds_concatRes fun t ht => hrf t (.allOf ht) path v
  | anyOf ts =>
    have hb := holds_mapRes (P := fun es => ∀ e ∈ es, Loc [] v e) fun t ht => hrf t (.anyOf ht) [] v
    dsimp only [reportStep]
    generalize mapRes (fun t => rf t [] v) ts = r at hb
    cases r with
    | ok branchErrors =>
      refine loc_buildUnionError _ _ _ fun e he => ?_
      split at he
      · obtain ⟨p, hp, hep⟩ := List.mem_flatMap.1 he
        exact hb p.1 (List.of_mem_zip (List.mem_filter.1 hp).1).1 e hep
      · obtain ⟨b, hbm, heb⟩ := List.mem_flatten.1 he
        exact hb b hbm e heb
    | throw c => exact hb
    | nofuel => trivial
  | array t =>
    cases v with
    | arr items =>
      exact holds_concatRes fun p hp => item .array _ p.1 fun rel w hw =>
        At.index items p.2 rel w (zip_range_getD items .undef p.1 p.2 hp ▸ hw)
    | _ => exact loc_buildError _ _ _
  | map kt vt =>
    cases v with
    | map es =>
      refine holds_concatRes fun x hx => ?_
      refine Res.Holds.seqErrs (item .mapKey _ x.1 fun rel w hw => At.mapKey es x rel w hx hw) fun a ha => ?_
      exact Res.Holds.seqErrs (item .mapVal _ x.2 fun rel w hw => At.mapVal es x rel w hx hw)
        fun b hb d hd => (List.mem_append.1 hd).elim (ha d) (hb d)
    | _ => exact loc_buildError _ _ _
  | set t =>
    cases v with
    | set xs => exact holds_concatRes fun x hx => item .set _ x fun rel w hw => At.setItem xs x rel w hx hw
    | _ => exact loc_buildError _ _ _
  | disc ss key mapping sm =>
    refine Res.Holds.ite (fun _ => loc_buildError _ _ _) fun _ => Res.Holds.ite (fun _ => loc_buildError _ _ _) fun _ => ?_
    cases hm : lookupMapping mapping (v.getProp key) with
    | none => exact fun e he => loc_step (fun rel w hw => At.prop v key rel w hw) (loc_buildError _ _ _ e he)
    | some t =>
      obtain ⟨p, hp, e⟩ := lookupMapping_mem hm
      exact e ▸ hrf p.2 (.disc hp) path v
  | optional t => exact hrf t .optional path v
  | object props indexed =>
    refine Res.Holds.ite (fun _ => loc_buildError _ _ _) fun _ => ?_
    refine Res.Holds.seqErrs (holds_concatRes fun p hp => item (.prop hp) p.1 _ fun rel w hw => At.prop v p.1 rel w hw)
      fun acc hacc => ?_
    refine Res.Holds.ite (fun _ => ?_) fun _ => Res.Holds.ite (fun _ d hd => ?_) fun _ => hacc
    · refine Res.Holds.seqErrs (holds_concatRes fun kk hkk => holds_concatRes fun p hp => ?_)
        fun e2 h2 d hd => (List.mem_append.1 hd).elim (hacc d) (h2 d)
      exact holds_reportIndexed (hvf _ (.ixKey hp) _) (hvf _ (.ixVal hp) _)
        ((hrf _ (.ixKey hp) _ _).mono fun _ h e he =>
          loc_step (fun rel w hw => At.key v kk rel w (List.mem_filter.1 hkk).1 hw) (h e he))
        ((hrf _ (.ixVal hp) _ _).mono fun _ h e he => loc_step (fun rel w hw => At.prop v kk rel w hw) (h e he))
    · obtain ⟨kk, _, hk⟩ := List.mem_flatMap.1 hd
      exact loc_step (fun rel w hw => At.prop v kk rel w hw) (loc_buildError _ _ _ d hk)
  | ref name =>
    dsimp only [reportStep]
    cases hl : env.lookup name with
    | none => exact href name rfl hl
    | some t => exact hrf t (.ref hl) path v
  | described d t => exact hrf t .described path v
  | _ => exact loc_buildError _ _ _

theorem received_all (env : Env) (strict : Bool) : ∀ n rt path v,
    (report env strict n rt path v).Holds (fun es => ∀ e ∈ es, Loc path v e) fun _ => True
  | 0, _, _, _ => trivial
  | n+1, rt, path, v => by
    rw [report_succ]
    exact reportStep_loc env strict rt path v (fun _ _ _ => Res.holds_trivial _) (fun t _ => received_all env strict n t)
      (fun _ _ _ => trivial)

/-- **C12 (received values)**: every error reported for `path` on the value `v` sits at `path ++ rel` and records what
following `rel` from `v` finds; nested union errors likewise relative to the union's received value -/
theorem report_received_located (env : Env) (strict : Bool) (n : Nat) (rt : RT) (path : List String) (v : JsVal)
    (errs : List DErr) (h : report env strict n rt path v = .ok errs) : ∀ e ∈ errs, Loc path v e :=
  (received_all env strict n rt path v).of_ok h

/-- … in particular for `safeParse`: every reported error is located in the input -/
theorem safeParse_errors_located (env : Env) (o : ParseOpts) (n : Nat) (rt : RT) (v : JsVal) (es : List DErr)
    (h : safeParse env o n rt v = .ok (.failure es)) : ∀ e ∈ es, Loc [] v e := by
  obtain ⟨_, errs, hr, rfl⟩ := safeParse_eq_failure.1 h
  exact fun e he => report_received_located env o.strict n rt [] v errs hr e (List.mem_of_mem_take he)

/-- the relation has content: the empty path finds the value itself, nothing else -/
theorem at_nil {v w : JsVal} (h : At v [] w) : w = v := by
  cases h
  rfl

/-- a concrete report: the error of the second array element sits at `a.[1]` and records that element -/
example : (match report [] false 10 (.object [("a", .array (.typeof "number"))] []) []
      (.obj [("a", .arr [.num "1", .str "x"])]) with
    | .ok [.regular "expected number" ["a", "[1]"] (.str "x")] => true
    | _ => false) = true := by decide +kernel

example : At (.obj [("a", .arr [.num "1", .str "x"])]) ["a", "[1]"] (.str "x") :=
  .prop _ "a" _ _ (.index [.num "1", .str "x"] 1 [] _ (.here _))

end BeffVerif.C12
