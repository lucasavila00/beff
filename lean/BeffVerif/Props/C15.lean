import BeffVerif.Model.Describe
/-!
# C15 — describe() prints TypeScript that compiles back to the same validator

Lean part: the text model of describe() (tied verbatim to the real describe() on every run) declares every
named type at most once, for every runtime tree, environment and fuel (`describe_definitions_nodup`);
a witness for a shape whose printed text is not a faithful TypeScript spelling (D43; the other such shape, D24c, has
none here); regression witnesses for the repaired D24 and for recursive types. The round trip through the real compiler is decided by the check.
-/
namespace BeffVerif.C15
open BeffVerif RT

def Uniq (c : DescCtx) : Prop := (c.definitions.map (·.1)).Nodup

theorem ite_elim {α : Type} (P : α → Prop) {p : Prop} [Decidable p] {a b : α} (ha : p → P a) (hb : ¬p → P b) :
    P (if p then a else b) := by
  split
  · exact ha ‹_›
  · exact hb ‹_›

theorem define_uniq (c : DescCtx) (n : String) (d : TypeDesc) (h : Uniq c) : Uniq (c.define n d) := by
  refine ite_elim Uniq (fun _ => h) fun hn => ?_
  show (List.map (·.1) (c.definitions ++ [(n, d)])).Nodup
  rw [List.map_append, List.nodup_append]
  refine ⟨h, List.pairwise_singleton _ _, fun a ha b hb hab => hn ?_⟩
  obtain ⟨p, hp, e⟩ := List.mem_map.1 ha
  exact List.any_eq_true.2 ⟨p, hp, beq_iff_eq.2 (e.trans (hab.trans (List.mem_singleton.1 hb)))⟩

section
variable {R : DescCtx → DescCtx → Prop} (hrefl : ∀ c, R c c) (htrans : ∀ {a b c}, R a b → R b c → R a c)
include hrefl htrans

theorem foldl_rel {α σ : Type} (f : σ × DescCtx → α → σ × DescCtx) :
    ∀ (l : List α) (b : σ × DescCtx), (∀ b x, R b.2 (f b x).2) → R b.2 (l.foldl f b).2
  | [], _, _ => hrefl _
  | x :: xs, b, hf => htrans (hf b x) (foldl_rel f xs _ hf)

/-- The printer threads the context through its recursive calls, except where it expands a shared reference: there it
marks the name, prints the target, unmarks the name and declares it. So a reflexive, transitive relation that survives
this one step (`hexpand`) holds between the context given and the context returned. -/
theorem describeRT_rel (env : Env)
    (hexpand : ∀ (c c' : DescCtx) (name : String) (d : TypeDesc), ¬ c.activeRefs.contains name = true →
      R { c with activeRefs := c.activeRefs ++ [name] } c' →
      R c (DescCtx.define { c' with activeRefs := c'.activeRefs.filter (· != name) } name d)) :
    ∀ (n : Nat) (rt : RT) (c : DescCtx), R c (describeRT env n rt c).2
  | 0, _, c => hrefl c
  | n+1, rt, c => by
    have ih := describeRT_rel env hexpand n
    have hexprs : ∀ (ts : List RT) (c : DescCtx),
        R c (ts.foldl (fun (acc : List String × DescCtx) t =>
          ((acc.1 ++ [(describeRT env n t acc.2).1.typeExpr]), (describeRT env n t acc.2).2)) ([], c)).2 :=
      fun ts c => foldl_rel hrefl htrans _ ts ([], c) (fun b x => ih x b.2)
    let P (x : TypeDesc × DescCtx) := R c x.2
    cases rt with
    | described doc t =>
      show R c (Prod.snd (α := TypeDesc) (match t with | .ref name => _ | _ => _))
      split <;> exact ih _ c
    | optional t => exact ih t c
    | ref name =>
      show R c (Prod.snd (α := TypeDesc) (match env.lookup name with | none => _ | some to => _))
      cases env.lookup name with
      | none => exact hrefl c
      | some to =>
        -- shared? then: being expanded, or declared already, or expanded now; not shared: printed in place
        exact ite_elim P
          (fun _ => ite_elim P (fun _ => hrefl c) fun hact =>
            ite_elim P (fun _ => hrefl c) fun _ => hexpand c _ name _ hact (ih to _))
          (fun _ => ih to c)
    | tuple pre rest =>
      cases rest with
      | none => exact hexprs pre c
      | some r => exact htrans (hexprs pre c) (ih r _)
    | allOf ts => exact hexprs ts c
    | anyOf ts => exact hexprs ts c
    | disc ss k m sm => exact hexprs ss c
    | array t => exact ih t c
    | map k v => exact htrans (ih k c) (ih v _)
    | set t => exact ih t c
    | object props ix =>
      have h1 := foldl_rel hrefl htrans
        (fun (acc : List (Option String × String) × DescCtx) (p : String × RT) =>
          (acc.1 ++ [((describeRT env n p.2 acc.2).1.docText,
            describePropertyKey p.1 ++ (if isOptional p.2 then "?" else "") ++ ": " ++ (describeRT env n p.2 acc.2).1.typeExpr)],
           (describeRT env n p.2 acc.2).2))
        (JsVal.sortBy (fun (a b : String × RT) => JsVal.strLe a.1 b.1) props) ([], c) (fun b x => ih x.2 b.2)
      -- the three layouts of the members return the same context; whatever the index-signature loop prints (key variable
      -- K, K_, …), its context steps are two descriptions
      refine ite_elim P (fun _ => ite_elim P (fun _ => ?_) fun _ => ?_) (fun _ => ?_) <;>
        exact htrans h1 (foldl_rel hrefl htrans _ ix ([], _) fun b x => htrans (ih x.1 b.2) (ih x.2 _))
    | _ => exact hrefl c

end

/-- describe() never records two definitions for one name: every runtime tree, environment, fuel, context. -/
theorem describeRT_uniq (env : Env) : ∀ (n : Nat) (rt : RT) (c : DescCtx), Uniq c → Uniq (describeRT env n rt c).2 :=
  describeRT_rel (R := fun c c' => Uniq c → Uniq c') (fun _ h => h) (fun h1 h2 h => h2 (h1 h)) env
    fun _ _ name d _ h hu => define_uniq _ name d (h hu)

theorem bump_definitions (c : DescCtx) (n : String) : (c.bump n).definitions = c.definitions :=
  ite_elim (fun x : DescCtx => x.definitions = c.definitions) (fun _ => rfl) (fun _ => rfl)

theorem collectRefs_definitions (env : Env) :
    ∀ (n : Nat) (rt : RT) (c : DescCtx), (collectRefs env n rt c).definitions = c.definitions
  | 0, _, _ => rfl
  | n+1, rt, c => by
    rw [collectRefs]
    split
    · rename_i name _
      let P (x : DescCtx) := x.definitions = c.definitions
      have hb : P (c.bump name) := bump_definitions c name
      refine ite_elim P (fun _ => hb) fun _ => ite_elim P (fun _ => hb) fun _ => ?_
      show (match env.lookup name with | some t => collectRefs env n t _ | none => _).definitions = _
      split
      · rw [collectRefs_definitions env n]; exact hb
      · exact hb
    · generalize describeChildren _ = l
      induction l generalizing c with
      | nil => rfl
      | cons x xs ihl => rw [List.foldl_cons, ihl, collectRefs_definitions env n]

/-- the definitions printed by `describe()` have pairwise distinct names -/
theorem describe_definitions_nodup (env : Env) (fuel : Nat) (rt : RT) :
    Uniq (describeRT env fuel rt (collectRefs env fuel rt ⟨[], [], [], []⟩)).2 := by
  apply describeRT_uniq
  unfold Uniq
  rw [collectRefs_definitions]
  exact List.nodup_nil

theorem length_pos_eq (s : String) : decide (s.length > 0) = (s != "") := by
  rw [Bool.eq_iff_iff, decide_eq_true_iff, bne_iff_ne, gt_iff_lt, Nat.pos_iff_ne_zero, Ne, String.length_eq_zero_iff]

/-- `describe`, its filter of empty parts written `!= ""`: the kernel evaluates `String.length` by decoding the whole text,
a comparison with `""` by looking at the first byte -/
theorem describe_eq (env : Env) (name : String) (rt : RT) (fuel : Nat) :
    describe env name rt fuel =
      let r := describeRT env fuel rt (collectRefs env fuel rt ⟨[], [], [], []⟩)
      "\n\n".intercalate ([
        "\n\n".intercalate ((JsVal.sortBy (fun (a b : String × TypeDesc) => JsVal.strLe a.1 b.1) r.2.definitions).map
          fun p => renderTypeAlias p.1 p.2),
        renderTypeAlias ("Codec" ++ name) r.1].filter (· != "")) := by
  unfold describe
  simp only [length_pos_eq]

/-- D43: an object with declared properties AND an index signature is printed with a mapped-type member next
to ordinary members, which TypeScript (and beff) does not accept. -/
theorem mixed_index_object_text :
    RT.describe [] "X" (.object [("a", .typeof "string")] [(.typeof "string", .typeof "number")]) =
      "type CodecX = { a: string, [K in string]: number };" := by rw [describe_eq]; decide +kernel

/-- D24 repaired: non-identifier keys are quoted and bigint is printed as the type. -/
theorem quoted_keys_and_bigint :
    RT.describe [] "X" (.object [("a-b", .typeof "string"), ("n", .bigint)] []) =
      "type CodecX = { \"a-b\": string, n: bigint };" := by rw [describe_eq]; decide +kernel

/-- recursive types are printed through one alias, the back reference as the alias's name -/
theorem recursive_type_text :
    RT.describe [("L", .object [("next", .optional (.ref "L")), ("v", .typeof "number")] [])] "X" (.ref "L") =
      "type L = { next?: L, v: number };\n\ntype CodecX = L;" := by rw [describe_eq]; decide +kernel

end BeffVerif.C15
