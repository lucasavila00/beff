import BeffVerif.Props.C02Complete
/-!
# C11 — strict mode rejects exactly the values that carry undeclared keys, on the structural fragment

`noExtra` says declaratively what "no key beyond those the type declares, at every object position" means: through
arrays and tuples position by position, through an optional wrapper unless the value is nullish, through a reference to its
target, and for a union through a branch that matches (a member that accepts the value in default mode and leaves no key
undeclared). `strict_iff_default_and_noExtra`: for every type of the fragment (`C02F.frag`) and every value, the validator
accepts with `disallowExtraProperties` exactly when it accepts in default mode and `noExtra` holds.
-/
namespace BeffVerif.C11F
open BeffVerif RT JsVal C02F

def noExtra (env : Env) : Nat → RT → JsVal → Bool
  | 0, _, _ => true
  | n+1, rt, d =>
    match rt with
    | .described _ t => noExtra env n t d
    | .array t => (match d with | .arr xs => xs.all (noExtra env n t) | _ => true)
    | .tuple pre rest => (match d with
      | .arr xs => (pre.zip (List.range pre.length)).all (fun p => noExtra env n p.1 (xs.getD p.2 .undef)) &&
          (match rest with | some r => (xs.drop pre.length).all (noExtra env n r) | none => true)
      | _ => true)
    | .anyOf ts => ts.any (fun t => validate env false n t d == .ok true && noExtra env n t d)
    | .optional t => d.isNullish || noExtra env n t d
    | .object props _ => (d.ownKeys.all (fun k => (props.map (·.1)).contains k)) && props.all (fun p => noExtra env n p.2 (d.getProp p.1))
    | .ref name => (match env.lookup name with | some t => noExtra env n t d | none => true)
    | _ => true

/-- the validator of a fragment type never throws (every reference resolves) -/
theorem frag_no_throw (env : Env) : ∀ n seen rt, frag env n seen rt = true → ∀ m strict d c, validate env strict m rt d ≠ .throw c :=
  frag_nt env

theorem frag_answers (env : Env) {n : Nat} {seen : List String} {rt : RT} (hf : frag env n seen rt = true) (strict : Bool) (d : JsVal) :
    ∃ b, validate env strict n rt d = .ok b := by
  cases hv : validate env strict n rt d with
  | ok b => exact ⟨b, rfl⟩
  | nofuel => exact absurd hv (validate_frag_answers env n seen rt hf n (Nat.le_refl _) strict d)
  | throw c => exact absurd hv (frag_no_throw env n seen rt hf n strict d c)

theorem filter_length_zero_iff {l : List String} {p : String → Bool} :
    ((l.filter (fun k => !p k)).length == 0) = true ↔ l.all p = true := by
  simp only [beq_iff_eq, List.length_eq_zero_iff, List.filter_eq_nil_iff, List.all_eq_true]
  constructor
  · intro h k hk; have := h k hk; simpa using this
  · intro h k hk; simp [h k hk]

theorem tuple_ok_iff (env : Env) (strict : Bool) (n : Nat) (pre : List RT) (rest : Option RT) (xs : List JsVal) :
    validate env strict (n+1) (.tuple pre rest) (.arr xs) = .ok true ↔
      (∀ q ∈ pre.zip (List.range pre.length), validate env strict n q.1 (xs.getD q.2 .undef) = .ok true) ∧
      (∀ r, rest = some r → ∀ x ∈ xs.drop pre.length, validate env strict n r x = .ok true) ∧
      (rest = none → xs.length ≤ pre.length) := by
  refine Res.andThen_eq_true.trans (and_congr (allShort_true_iff _ _) ?_)
  cases rest with
  | none => simp
  | some r => simp [allShort_true_iff]

theorem object_ok_iff (env : Env) (strict : Bool) (n : Nat) (props : List (String × RT)) (d : JsVal) :
    validate env strict (n+1) (.object props []) d = .ok true ↔
      (d.isObjectLike && !d.isArray) = true ∧
      (∀ p ∈ props, validate env strict n p.2 (d.getProp p.1) = .ok true) ∧
      (strict = true → d.ownKeys.all (fun k => (props.map (·.1)).contains k) = true) := by
  dsimp only [validate]
  cases ho : (d.isObjectLike && !d.isArray) with
  | false => exact ⟨nofun, fun h => nomatch h.1⟩
  | true =>
    simp only [Bool.not_true, Bool.false_eq_true, if_false, true_and]
    refine Res.andThen_eq_true.trans (and_congr (allShort_true_iff _ _) ?_)
    cases strict with
    | false => exact ⟨fun _ => nofun, fun _ => rfl⟩
    | true => simp only [List.length_nil, gt_iff_lt, Nat.lt_irrefl, if_false, if_true, Res.ok.injEq, forall_const, filter_length_zero_iff]

theorem noExtra_tuple (env : Env) (n : Nat) (pre : List RT) (rest : Option RT) (xs : List JsVal) :
    noExtra env (n+1) (.tuple pre rest) (.arr xs) = true ↔
      (∀ q ∈ pre.zip (List.range pre.length), noExtra env n q.1 (xs.getD q.2 .undef) = true) ∧
      (∀ r, rest = some r → ∀ x ∈ xs.drop pre.length, noExtra env n r x = true) := by
  dsimp only [noExtra]
  simp only [Bool.and_eq_true, List.all_eq_true]
  refine and_congr_right fun _ => ?_
  cases rest with
  | none => exact ⟨fun _ => nofun, fun _ => rfl⟩
  | some r => simp only [List.all_eq_true, Option.some.injEq, forall_eq']

/-- **C11 on the structural fragment**: strict acceptance = default acceptance and no undeclared key at any object
position (through arrays, tuples, optional wrappers, references, and the union branch that matches) -/
theorem strict_iff_default_and_noExtra (env : Env) : ∀ n seen rt, frag env n seen rt = true → ∀ d,
    (validate env true n rt d = .ok true ↔ (validate env false n rt d = .ok true ∧ noExtra env n rt d = true)) := by
  intro n
  induction n with
  | zero => intro seen rt h; cases h
  | succ n ih =>
    intro seen rt h d
    have kid : ∀ t, Child env rt t → ∀ x,
        (validate env true n t x = .ok true ↔ (validate env false n t x = .ok true ∧ noExtra env n t x = true)) :=
      fun t hc x => (frag_child h hc).elim fun s hs => ih s t hs x
    have kidAnswers : ∀ t, Child env rt t → ∀ strict, ∃ b, validate env strict n t d = .ok b :=
      fun t hc strict => (frag_child h hc).elim fun _ hs => frag_answers env hs strict d
    cases rt with
    | described x t => exact kid t .described d
    | typeof _ | any | nullish _ | never | const _ | consts _ => exact ⟨fun h => ⟨h, rfl⟩, And.left⟩
    | array t =>
      dsimp only [validate, noExtra]
      cases d with
      | arr xs =>
        simp only [allShort_true_iff, List.all_eq_true]
        exact ⟨fun hs => ⟨fun x hx => ((kid t .array x).1 (hs x hx)).1, fun x hx => ((kid t .array x).1 (hs x hx)).2⟩,
          fun ⟨h1, h2⟩ x hx => (kid t .array x).2 ⟨h1 x hx, h2 x hx⟩⟩
      | _ => exact ⟨fun h => ⟨h, rfl⟩, And.left⟩
    | tuple pre rest =>
      cases d with
      | arr xs =>
        rw [tuple_ok_iff, tuple_ok_iff, noExtra_tuple]
        have hq := fun (q : RT × Nat) (hq : q ∈ pre.zip (List.range pre.length)) =>
          kid q.1 (.tuplePre (List.of_mem_zip hq).1) (xs.getD q.2 .undef)
        have hr : ∀ r, rest = some r → ∀ x, _ := fun r e x => kid r (e ▸ .tupleRest) x
        exact ⟨fun ⟨h1, h2, h3⟩ => ⟨⟨fun q m => ((hq q m).1 (h1 q m)).1, fun r e x m => ((hr r e x).1 (h2 r e x m)).1, h3⟩,
            fun q m => ((hq q m).1 (h1 q m)).2, fun r e x m => ((hr r e x).1 (h2 r e x m)).2⟩,
          fun ⟨⟨h1, h2, h3⟩, h4, h5⟩ => ⟨fun q m => (hq q m).2 ⟨h1 q m, h4 q m⟩, fun r e x m => (hr r e x).2 ⟨h2 r e x m, h5 r e x m⟩, h3⟩⟩
      | _ => exact ⟨fun h => ⟨h, rfl⟩, And.left⟩
    | anyOf ts =>
      dsimp only [validate, noExtra]
      simp only [List.any_eq_true, Bool.and_eq_true, beq_iff_eq]
      constructor
      · intro hs
        obtain ⟨t, ht, e⟩ := anyShort_true _ _ hs
        have := (kid t (.anyOf ht) d).1 e
        exact ⟨anyShort_of_mem (fun x hx => kidAnswers x (.anyOf hx) false) ⟨t, ht, this.1⟩, t, ht, this.1, this.2⟩
      · intro ⟨_, t, ht, h1, h2⟩
        exact anyShort_of_mem (fun x hx => kidAnswers x (.anyOf hx) true) ⟨t, ht, (kid t (.anyOf ht) d).2 ⟨h1, h2⟩⟩
    | optional t =>
      dsimp only [validate, noExtra]
      cases hn : d.isNullish with
      | true => exact ⟨fun _ => ⟨rfl, rfl⟩, fun _ => rfl⟩
      | false => exact kid t .optional d
    | object props ix =>
      obtain rfl : ix = [] := by
        dsimp only [frag] at h
        exact List.isEmpty_iff.1 (Bool.and_eq_true_iff.1 (Bool.and_eq_true_iff.1 h).1).1
      rw [object_ok_iff, object_ok_iff]
      dsimp only [noExtra]
      simp only [Bool.and_eq_true, List.all_eq_true, forall_const, Bool.false_eq_true, false_imp_iff, and_true]
      have hp := fun p (m : p ∈ props) => kid p.2 (.prop m) (d.getProp p.1)
      exact ⟨fun ⟨h0, h1, h2⟩ => ⟨⟨h0, fun p m => ((hp p m).1 (h1 p m)).1⟩, h2, fun p m => ((hp p m).1 (h1 p m)).2⟩,
        fun ⟨⟨h0, h1⟩, h2, h3⟩ => ⟨h0, fun p m => (hp p m).2 ⟨h1 p m, h3 p m⟩, h2⟩⟩
    | ref name =>
      dsimp only [validate, noExtra]
      cases hl : env.lookup name with
      | some t => exact kid t (.ref hl) d
      | none =>
        dsimp only [frag] at h
        rw [hl, Bool.and_false] at h
        cases h
    | _ => cases h

/-- the statement for a closed type and any validator fuel at least the depth of the type -/
theorem strict_exactly_undeclared_keys (env : Env) (n : Nat) (rt : RT) (hf : frag env n [] rt = true) (m : Nat) (hm : n ≤ m) (d : JsVal) :
    validate env true m rt d = .ok true ↔ (validate env false m rt d = .ok true ∧ noExtra env n rt d = true) := by
  rw [validate_frag_stable env n [] rt hf m hm true d, validate_frag_stable env n [] rt hf m hm false d]
  exact strict_iff_default_and_noExtra env n [] rt hf d

/-- non-vacuity on the example type of Props/C02Sound.lean: a member is accepted in both modes; with a key nobody declares,
two levels down, it is accepted in default mode only, and `noExtra` is what tells the two apart -/
theorem strict_example :
    validate exEnv true 10 exRT exDoc = .ok true ∧ noExtra exEnv 10 exRT exDoc = true ∧
    (let bad : JsVal := .obj [("from", .obj [("x", .num "1"), ("zz", .num "0")]), ("to", .obj [("x", .num "2")]), ("kind", .str "b"),
        ("tags", .arr []), ("pair", .arr [.str "p"])]
     validate exEnv false 10 exRT bad = .ok true ∧ validate exEnv true 10 exRT bad = .ok false ∧ noExtra exEnv 10 exRT bad = false) := by
  decide +kernel

end BeffVerif.C11F
