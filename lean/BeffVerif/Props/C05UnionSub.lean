import BeffVerif.Props.C05Union
import BeffVerif.Props.C06Total
/-!
# C05 — `A extends B1 | B2` for flat object types: the whole way from `is_subtype`

`Props/C05Union.lean` proves `check_mapping_empty` exact against any number of negative atoms; this file connects it to the
question a program asks (`flat_object_vs_union_iff_inclusion`, e.g. `{ ok: boolean } extends { ok: true } | { ok: false }`),
with the union on the right as `SemTypeOps::union` builds it. The diagram side: the union of two atoms is one diagram whatever
the order they are written in (`union_atoms`), and `a ∧ ¬(x ∨ y)` has one clause with one positive and two negative atoms
wherever `a` stands in the order (`diff_union_sorted`, three shapes), which `dnf_mapping_is_empty` hands to
`check_mapping_empty` (`C05Flat.subtype_clause`, then `C05Union.check_many`).
-/
namespace BeffVerif.C05Union3
open BeffVerif Sem C05 C05Flat C05Union Bdd

theorem cmp_flip_lt (a b : Atom) (h : Atom.cmp a b = .lt) : Atom.cmp b a = .gt :=
  (C06T.cmp_gt b a).2 ((C06T.cmp_lt a b).1 h)
theorem cmp_flip_gt (a b : Atom) (h : Atom.cmp a b = .gt) : Atom.cmp b a = .lt :=
  (C06T.cmp_lt b a).2 ((C06T.cmp_gt a b).1 h)
theorem cmp_trans_lt (a b c : Atom) (h1 : Atom.cmp a b = .lt) (h2 : Atom.cmp b c = .lt) : Atom.cmp a c = .lt :=
  (C06T.cmp_lt a c).2 (C06T.lt_trans ((C06T.cmp_lt a b).1 h1) ((C06T.cmp_lt b c).1 h2))
theorem cmp_trans_gt (a b c : Atom) (h1 : Atom.cmp a b = .gt) (h2 : Atom.cmp b c = .gt) : Atom.cmp a c = .gt :=
  cmp_flip_lt c a (cmp_trans_lt c b a (cmp_flip_gt b c h2) (cmp_flip_gt a b h1))

/-- `a ∧ ¬(x ∨ y)` for `x < y`: one clause, whatever the position of `a` -/
theorem diff_union_sorted (a x y : Atom) (hax : a ≠ x) (hay : a ≠ y) (_hxy : Atom.cmp x y = .lt) (n : Nat) :
    ∃ d, Bdd.diff (n + 6) (fromAtom a) (node x tt (node y tt ff ff) ff) = some d ∧ Dnf.ofBdd d = [⟨[a], [x, y]⟩] := by
  rcases cmp_cases a x hax with c1 | c1
  · exact ⟨node a (node x ff ff (node y ff ff tt)) ff ff, (diff_lt (n + 5) c1).trans rfl, rfl⟩
  · have h : Bdd.diff (n + 6) (fromAtom a) (node x tt (node y tt ff ff) ff) =
        Bdd.diff (n + 5) (node a tt ff ff) (node y tt ff ff) >>= fun r => fromNode (n + 5) x ff ff r := diff_gt (n + 5) c1
    rcases cmp_cases a y hay with c2 | c2
    · exact ⟨node x ff ff (node a (node y ff ff tt) ff ff), by rw [h, diff_lt (n + 4) c2]; rfl, rfl⟩
    · exact ⟨node x ff ff (node y ff ff (node a tt ff ff)), by rw [h, diff_gt (n + 4) c2]; rfl, rfl⟩

theorem union_atoms (x y : Atom) (hxy : Atom.cmp x y = .lt) (n : Nat) :
    Bdd.union (n + 2) (fromAtom x) (fromAtom y) = some (node x tt (node y tt ff ff) ff) ∧
    Bdd.union (n + 2) (fromAtom y) (fromAtom x) = some (node x tt (node y tt ff ff) ff) :=
  ⟨(union_lt (n + 1) hxy).trans rfl, (union_gt (n + 1) (cmp_flip_lt x y hxy)).trans rfl⟩

/-- **A flat object type against the union of two object types: assignability = inclusion.** `A`, `B1`, `B2` object types without
index signature (the declared properties of `A` inhabited scalar types, those of `B1`, `B2` well-formed), three distinct atoms in
a context with an empty memo; `U` the union of the two right-hand types as the engine builds it. For every fuel ≥ 6
`is_subtype A U` answers, and says *yes* exactly when every exact value of `A` is a structural value of `B1` or of `B2`. -/
theorem flat_object_vs_union_iff_inclusion (n i j1 j2 : Nat) (A B1 B2 : MappingAtomic) (c : Ctx) (U : SemType)
    (h1 : i ≠ j1) (h2 : i ≠ j2) (h12 : j1 ≠ j2)
    (hAi : c.mappings[i]? = some (some A)) (hB1 : c.mappings[j1]? = some (some B1)) (hB2 : c.mappings[j2]? = some (some B2))
    (hA : ∀ p ∈ A.vs, Good p.2 ∧ Inh p.2) (hAx : A.index = none)
    (hB1w : (∀ q ∈ B1.vs, WF q.2) ∧ B1.index = none) (hB2w : (∀ q ∈ B2.vs, WF q.2) ∧ B2.index = none)
    (hmemo : c.memoM = []) (hU : Sem.union (mappingFromIdx j1) (mappingFromIdx j2) = some U) :
    ∃ r c', isSubtype (n + 6) (mappingFromIdx i) U c = some (r, c') ∧
      (r = true ↔ ∀ o, memExact A o → memOpen B1 o ∨ memOpen B2 o) := by
  have hne : (⟨mappingKind, j1⟩ : Atom) ≠ ⟨mappingKind, j2⟩ := fun e => h12 (Atom.mk.inj e).2
  let ok (x : Atom) (B : MappingAtomic) : Prop :=
    (⟨mappingKind, i⟩ : Atom) ≠ x ∧ c.mappings[x.idx]? = some (some B) ∧ (∀ q ∈ B.vs, WF q.2) ∧ B.index = none
  have ok1 : ok ⟨mappingKind, j1⟩ B1 := ⟨fun e => h1 (Atom.mk.inj e).2, hB1, hB1w⟩
  have ok2 : ok ⟨mappingKind, j2⟩ B2 := ⟨fun e => h2 (Atom.mk.inj e).2, hB2, hB2w⟩
  -- the two right-hand atoms in diagram order
  obtain ⟨x, y, Bx, By, hxy, hUe, ⟨hax, hBx, hBxw⟩, ⟨hay, hBy, hByw⟩, hor⟩ :
      ∃ (x y : Atom) (Bx By : MappingAtomic), Atom.cmp x y = .lt ∧ U = objVec (node x tt (node y tt ff ff) ff) ∧
        ok x Bx ∧ ok y By ∧ ∀ o, (memOpen Bx o ∨ memOpen By o) ↔ (memOpen B1 o ∨ memOpen B2 o) := by
    -- 198 + 2 = 194 + 6 = `fuelB`, the fuel `Sem.union` / `Sem.diff` give the diagram operations
    rcases cmp_cases _ _ hne with hc | hc
    · exact ⟨_, _, B1, B2, hc, Option.some.inj (hU.symm.trans (union_objVec _ _ _ (union_atoms _ _ hc 198).1)),
        ok1, ok2, fun _ => Iff.rfl⟩
    · exact ⟨_, _, B2, B1, cmp_flip_gt _ _ hc,
        Option.some.inj (hU.symm.trans (union_objVec _ _ _ (union_atoms _ _ (cmp_flip_gt _ _ hc) 198).2)),
        ok2, ok1, fun _ => or_comm⟩
  subst hUe
  obtain ⟨D, hD, hdnf⟩ := diff_union_sorted ⟨mappingKind, i⟩ x y hax hay hxy 194
  refine subtype_clause (n + 3) i [x, y] A [Bx, By] c _ D _ (diff_objVec _ _ D hD) hdnf (by rw [hmemo]; rfl) hAi hA hAx
    (fun c1 h1 => mapM_two (getMapping_of (h1 ▸ hBx)) (getMapping_of (h1 ▸ hBy)))
    fun A' c1 hA' hA'x => ?_
  obtain ⟨r, hr, hiff⟩ := check_many [Bx, By] n A' c1 hA' hA'x fun B hB =>
    (List.mem_cons.1 hB).elim (· ▸ hBxw) fun h => List.mem_singleton.1 h ▸ hByw
  refine ⟨r, hr, hiff.trans (forall₂_congr fun o _ => Iff.trans ?_ (hor o))⟩
  simp only [List.mem_cons, List.mem_nil_iff, or_false, exists_eq_or_imp, exists_eq_left]

/-- `{ ok: boolean }` (atom 0) against `{ ok: true } | { ok: false }` (atoms 1, 2) — yes; against `{ ok: true } | { ok: true }`
(atoms 1 and 3, the same type under two names) — no -/
def exCtx : Ctx := { mappings := [some exP, some exT, some exF, some exT] }
example : ((Sem.union (mappingFromIdx 1) (mappingFromIdx 2)).bind fun U => (isSubtype 6 (mappingFromIdx 0) U exCtx).map (·.1)) = some true := by
  decide +kernel
example : ((Sem.union (mappingFromIdx 1) (mappingFromIdx 3)).bind fun U => (isSubtype 6 (mappingFromIdx 0) U exCtx).map (·.1)) = some false := by
  decide +kernel

end BeffVerif.C05Union3
