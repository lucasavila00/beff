import BeffVerif.Props.C05
import BeffVerif.Model.ToSchema
/-!
# C07 — `T[K]` for an object type and one declared key is the declared type of that key

`idx_atom`: for EVERY object type, every set of literal keys and every context that defines the atom, the port of
`indexed_access` on type vectors answers what `mapping_member_type` says of that one object type — no contribution of the
list part or of the string tag, and the walk over the diagram (`bdd_mapping_member_type`) meets one atom. What is left is a
fact about `mappingMemberType` alone. `idx_declared_key`: for an object type with distinct keys (with or without an index
signature) and a declared property `(k, t)` it answers `t` for the literal key `k` (every requested key is declared: D71 / D93
concern the other case, `C07IdxIx`). Together with `C07Keyof.keyof_flat_object`: `keyof` lists the declared keys and `T[k]` at
each of them is the declared type.
-/
namespace BeffVerif.C07Idx
open BeffVerif Sem C05 Bdd

theorem bddMappingMember_atom (c : Ctx) (n : Nat) (a : Atom) (A : MappingAtomic) (key : StrKey) (accum : SemType)
    (hA : c.mappings[a.idx]? = some (some A)) :
    bddMappingMember c (n + 2) (fromAtom a) key accum = (mappingMemberType A key).bind (inter · accum) := by
  simp only [fromAtom, bddMappingMember, hA, Option.bind_some, id, union_never_right, Option.bind_eq_bind,
    Option.bind_fun_some]

/-- nothing comes from lists, and the `string` tag is not added -/
theorem indexedAccess_mapping (b : Bdd) (a : Bool) (vs : List String) (c : Ctx) :
    indexedAccess { never with mapping := .some b } { never with str := .some ⟨a, vs⟩ } c = (do
      let mapRes ← bddMappingMember c 200 b (.lits a vs) unknown
      let acc ← Sem.union never mapRes
      some (acc, c)) := by rfl

/-- **`T[K]` for a single object type** is `mapping_member_type` of it -/
theorem idx_atom (i : Nat) (A : MappingAtomic) (c : Ctx) (a : Bool) (vs : List String)
    (hA : c.mappings[i]? = some (some A)) :
    indexedAccess (mappingFromIdx i) { never with str := .some ⟨a, vs⟩ } c =
      (mappingMemberType A (.lits a vs)).map (·, c) := by
  show indexedAccess { never with mapping := .some (fromAtom ⟨mappingKind, i⟩) } _ c = _
  -- 198 + 2 = 200, the fuel `indexedAccess` gives the walk over the diagram
  rw [indexedAccess_mapping, bddMappingMember_atom c 198 _ A _ _ hA]
  cases mappingMemberType A (.lits a vs) with
  | none => rfl
  | some t =>
    show (inter t unknown >>= fun r => Sem.union never r >>= fun acc => some (acc, c)) = _
    rw [inter_unknown_right]
    show (Sem.union never t >>= fun acc => some (acc, c)) = _
    rw [union_never]
    rfl

theorem contains_single (k s : String) : [k].contains s = (s == k) := by
  rw [List.contains_cons, List.contains_nil, Bool.or_false]

theorem filter_absent (vs : List (String × SemType)) (k : String) (hk : k ∉ vs.map (·.1)) :
    (vs.filter fun p => [k].contains p.1) = [] := by
  apply List.filter_eq_nil_iff.2
  intro q hq hc
  rw [contains_single, beq_iff_eq] at hc
  exact hk (List.mem_map.2 ⟨q, hq, hc⟩)

/-- with distinct keys, the members selected by one declared key are that one property -/
theorem filter_key (vs : List (String × SemType)) (k : String) (t : SemType) (hn : (vs.map (·.1)).Nodup)
    (h : (k, t) ∈ vs) : (vs.filter fun p => [k].contains p.1) = [(k, t)] := by
  induction vs with
  | nil => cases h
  | cons p ps ih =>
    rw [List.map_cons, List.nodup_cons] at hn
    rcases List.mem_cons.1 h with e | h'
    · subst e
      rw [List.filter_cons_of_pos (by rw [contains_single]; exact beq_self_eq_true k), filter_absent ps k hn.1]
    · have hne : ¬ p.1 = k := fun e => hn.1 (List.mem_map.2 ⟨(k, t), h', e.symm⟩)
      rw [List.filter_cons_of_neg (by rw [contains_single, beq_iff_eq]; exact hne)]
      exact ih hn.2 h'

theorem mappingMemberType_declared (A : MappingAtomic) (k : String) (t : SemType)
    (hn : (A.vs.map (·.1)).Nodup) (hk : (k, t) ∈ A.vs) : mappingMemberType A (.lits true [k]) = some t := by
  have hall : ([k].all fun l => A.vs.any fun p => p.1 == l) = true := by
    rw [List.all_cons, List.all_nil, Bool.and_true, List.any_eq_true]
    exact ⟨(k, t), hk, beq_self_eq_true k⟩
  unfold mappingMemberType
  simp only [filter_key A.vs k t hn hk, hall]
  show (Sem.union never t >>= fun s => pure s) = some t
  rw [union_never]
  rfl

/-- **`T[K]` with one declared key**: for every object type with distinct keys, every declared property `(k, t)` and every
context that defines the atom, indexing the type vector of the object by the literal `k` answers `t` — whether or not the
type has an index signature — and leaves the context alone -/
theorem idx_declared_key (i : Nat) (A : MappingAtomic) (c : Ctx) (k : String) (t : SemType)
    (hA : c.mappings[i]? = some (some A)) (hn : (A.vs.map (·.1)).Nodup) (hk : (k, t) ∈ A.vs) :
    indexedAccess (mappingFromIdx i) { never with str := .some ⟨true, [k]⟩ } c = some (t, c) := by
  rw [idx_atom i A c true [k] hA, mappingMemberType_declared A k t hn hk]
  rfl

/-- `{ a: string; b?: number; [k: string]: ... }["b"]` is `number | absent`, in a context that also holds other atoms -/
example : (indexedAccess (mappingFromIdx 1) { never with str := .some ⟨true, ["b"]⟩ }
    { mappings := [some ⟨[], none⟩, some ⟨[("a", { never with str := .all }), ("b", { never with num := .all, opt := true })], some unknown⟩] }).map (·.1)
    = some { never with num := .all, opt := true } := by decide +kernel

end BeffVerif.C07Idx
