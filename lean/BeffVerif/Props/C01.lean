import BeffVerif.Lemmas.RT
import BeffVerif.Model.Spec
/-!
# C01 — generated validators accept exactly the values of the declared TypeScript type

Chain: ⟦t⟧ᵀˢ = lower t = print (lower t) = validate (reference `Spec.mem`, frontend, printer, run time).
Proved here: base cases of the whole chain (every keyword and literal type, through the real model of
`lower`, `print` and `validate`), invisibility at run time of the printer's literal-set dispatch, and reference-level
structural facts. The inductive step is proved in `Props/C01Frag.lean` for the structural formers (arrays, tuples,
object types, parentheses, `readonly`); for the other constructors it is decided by the three-way correspondence of
the check (implementation / compiler model / reference).
-/
namespace BeffVerif.C01
open BeffVerif RT JsVal

/-- the compiled validator of a program with one export `t` and no declarations, run on `v` -/
def compiledAccepts (t : Ty) (v : JsVal) : Option Bool :=
  match compile ⟨[], [("X", t)]⟩ with
  | .ok env [(_, rt)] => (match validate env false 50 rt v with | .ok b => some b | _ => none)
  | _ => none

section base
variable (decls : List Decl) (named : Named) (n : Nat) (stack : List (String × IR)) (defs : Lower.Defs)

theorem lower_kw (k : String) : Lower.lower decls (n+1) stack defs (.kw k) = (match k with
    | "string" => .ok .string defs | "number" => .ok .number defs | "boolean" => .ok .boolean defs
    | "null" => .ok .null defs | "undefined" => .ok .undefined defs | "void" => .ok .void defs
    | "any" => .ok .any defs | "unknown" => .ok .any defs | "never" => .ok .never defs
    | "bigint" => .ok .bigint defs | "object" => .ok IR.anyObject defs
    | _ => .diag "KeywordNonSerializable" defs) := rfl

/-- string literals travel as one-item templates -/
def litIR : JsVal → IR
  | .str s => IR.strConst s
  | c => .const c

theorem lower_lit (c : JsVal) : Lower.lower decls (n+1) stack defs (.lit c) = .ok (litIR c) defs := by
  cases c <;> rfl

theorem lower_array (t : Ty) : Lower.lower decls (n+1) stack defs (.array t) =
    (match Lower.lower decls n stack defs t with
      | .ok x d => .ok (.array x) d
      | r => r) := rfl
theorem lower_tuple (pre : List Ty) (rest : Option Ty) : Lower.lower decls (n+1) stack defs (.tuple pre rest) =
    (match Lower.lowerList decls n stack defs pre with
      | .ok ps d =>
        match rest with
        | none => .ok (.tuple ps none) d
        | some r => match Lower.lower decls n stack d r with
          | .ok x d' => .ok (.tuple ps (some x)) d'
          | .diag m d' => .diag m d'
          | .nofuel => .nofuel
      | .diag m d => .diag m d
      | .nofuel => .nofuel) := rfl
theorem lowerList_cons (t : Ty) (ts : List Ty) : Lower.lowerList decls (n+1) stack defs (t :: ts) =
    (match Lower.lower decls n stack defs t with
      | .ok x d => match Lower.lowerList decls n stack d ts with
        | .ok xs d' => .ok (x :: xs) d'
        | r => r
      | .diag m d => .diag m d
      | .nofuel => .nofuel) := rfl
theorem lowerMembers_none (ms : List (String × Bool × Ty)) : Lower.lowerMembers decls (n+1) stack defs ms none =
    (match Lower.lowerList decls n stack defs (ms.map (·.2.2)) with
      | .ok xs d => .ok (.object (IR.vsOfList ((ms.zip xs).map fun p => (p.1.1, !p.1.2.1, p.2))) none) d
      | .diag m d => .diag m d
      | .nofuel => .nofuel) := rfl

theorem print_string : IR.print named (n+1) .string = .typeof "string" := rfl
theorem print_number : IR.print named (n+1) .number = .typeof "number" := rfl
theorem print_boolean : IR.print named (n+1) .boolean = .typeof "boolean" := rfl
theorem print_null : IR.print named (n+1) .null = .nullish "null" := rfl
theorem print_undefined : IR.print named (n+1) .undefined = .nullish "undefined" := rfl
theorem print_void : IR.print named (n+1) .void = .nullish "void" := rfl
theorem print_any : IR.print named (n+1) .any = .any := rfl
theorem print_never : IR.print named (n+1) .never = .never := rfl
theorem print_bigint : IR.print named (n+1) .bigint = .bigint := rfl
theorem print_const (c : JsVal) : IR.print named (n+1) (.const c) = .const c := rfl
theorem print_litIR (c : JsVal) : IR.print named (n+1) (litIR c) = .const c := by cases c <;> rfl

theorem spec_lit (c v : JsVal) : Spec.mem decls (n+1) (.lit c) v = some (strictEqPrim v c) := rfl
end base

/-- Parentheses and `readonly` are invisible to the reference semantics. -/
theorem spec_paren (decls : List Decl) (n : Nat) (t : Ty) (v : JsVal) :
    Spec.mem decls (n+1) (.paren t) v = Spec.mem decls n t v := rfl

theorem spec_readonly (decls : List Decl) (n : Nat) (t : Ty) (v : JsVal) :
    Spec.mem decls (n+1) (.readonly t) v = Spec.mem decls n t v := rfl

theorem validate_const (env : Env) (strict : Bool) (n : Nat) (c v : JsVal) :
    validate env strict (n+1) (.const c) v = .ok (if c.isNullish then v.isNullish else strictEqPrim v c) := rfl

theorem compile_single {t : Ty} {ir : IR} (h : Lower.lower [] 200 [] [] t = .ok ir []) :
    compile ⟨[], [("X", t)]⟩ = .ok [] [("X", IR.print [] 200 ir)] := by
  simp only [compile, Lower.lowerExports, h]
  rfl

theorem compile_single_nofuel {t : Ty} (h : Lower.lower [] 200 [] [] t = .nofuel) :
    compile ⟨[], [("X", t)]⟩ = .nofuel := by
  simp only [compile, Lower.lowerExports, h]

theorem compiledAccepts_of {t : Ty} {ir : IR} (h : Lower.lower [] 200 [] [] t = .ok ir []) (v : JsVal) :
    compiledAccepts t v = (match validate [] false 50 (IR.print [] 200 ir) v with | .ok b => some b | _ => none) := by
  rw [compiledAccepts, compile_single h]

/-- A leaf of the chain: each stage is independent of context and (positive) fuel on `t`, and run time and reference
compute the same `p`. -/
structure Leaf (t : Ty) (ir : IR) (p : JsVal → Bool) : Prop where
  lower : ∀ decls n stack defs, Lower.lower decls (n+1) stack defs t = .ok ir defs
  run : ∀ named pf env strict vf v, validate env strict (vf+1) (IR.print named (pf+1) ir) v = .ok (p v)
  mem : ∀ decls sf v, Spec.mem decls (sf+1) t v = some (p v)

theorem Leaf.exact {t : Ty} {ir : IR} {p : JsVal → Bool} (h : Leaf t ir p) (v : JsVal) (sf : Nat) :
    compiledAccepts t v = Spec.mem [] (sf+1) t v := by
  -- 199 + 1 = 200 is `compile`'s fuel for `lower` and `print`, 49 + 1 = 50 the validator's in `compiledAccepts`
  rw [compiledAccepts_of (h.lower [] 199 [] []), h.run [] 199 [] false 49, h.mem]

theorem typeOf_bigint (v : JsVal) : (v.typeOf == "bigint") = (match v with | .bigint _ => true | _ => false) := by
  cases v <;> simp only [JsVal.typeOf, String.reduceBEq]

def kwTable : List (String × IR × (JsVal → Bool)) :=
  [("string", .string, fun v => v.typeOf == "string"), ("number", .number, fun v => v.typeOf == "number"),
   ("boolean", .boolean, fun v => v.typeOf == "boolean"), ("null", .null, isNullish), ("undefined", .undefined, isNullish),
   ("void", .void, isNullish), ("any", .any, fun _ => true), ("unknown", .any, fun _ => true),
   ("never", .never, fun _ => false), ("bigint", .bigint, fun v => match v with | .bigint _ => true | _ => false)]

theorem leaf_kw : ∀ e ∈ kwTable, Leaf (.kw e.1) e.2.1 e.2.2 := by
  simp only [kwTable, List.forall_mem_cons, List.not_mem_nil, false_imp_iff, implies_true, and_true]
  -- only `bigint` is recognised differently at run time (`typeOf`) and in the reference (a match)
  refine ⟨?_, ?_, ?_, ?_, ?_, ?_, ?_, ?_, ?_, ?bigint⟩
  case bigint =>
    exact ⟨fun _ _ _ _ => by simp only [lower_kw], fun _ _ _ _ _ _ => rfl,
      fun _ _ v => by unfold Spec.mem; simp only [typeOf_bigint]⟩
  all_goals
    exact ⟨fun _ _ _ _ => by simp only [lower_kw], fun _ _ _ _ _ _ => rfl, fun _ _ _ => by unfold Spec.mem; simp only⟩

theorem leaf_lit (c : JsVal) (hc : c.isNullish = false) : Leaf (.lit c) (litIR c) (fun v => strictEqPrim v c) where
  lower _ _ _ _ := lower_lit ..
  run named pf env strict vf v := by rw [print_litIR, validate_const, hc]; rfl
  mem _ _ _ := spec_lit ..

/-- Every supported keyword type except `object`: the compiled validator decides exactly reference membership, for EVERY value. -/
theorem keyword_types_exact (k : String)
    (hk : k ∈ ["string", "number", "boolean", "null", "undefined", "void", "any", "unknown", "never", "bigint"])
    (v : JsVal) : compiledAccepts (.kw k) v = Spec.mem [] 10 (.kw k) v := by
  obtain ⟨e, he, rfl⟩ := List.mem_map.1 (show k ∈ kwTable.map (·.1) from hk)
  exact (leaf_kw e he).exact v 9   -- 9 + 1 = 10, the reference fuel in the statement

/-- String / boolean / number literal types: exact for every value. -/
theorem string_literal_exact (s : String) (v : JsVal) :
    compiledAccepts (.lit (.str s)) v = Spec.mem [] 10 (.lit (.str s)) v :=
  (leaf_lit (.str s) rfl).exact v 9

theorem boolean_literal_exact (b : Bool) (v : JsVal) :
    compiledAccepts (.lit (.bool b)) v = Spec.mem [] 10 (.lit (.bool b)) v :=
  (leaf_lit (.bool b) rfl).exact v 9

theorem number_literal_exact (c : String) (v : JsVal) :
    compiledAccepts (.lit (.num c)) v = Spec.mem [] 10 (.lit (.num c)) v :=
  (leaf_lit (.num c) rfl).exact v 9

/-- the constants on which `===` and `Array.prototype.includes` agree (`NaN`: `===` never equals it, `includes` finds it) -/
def plainConst : JsVal → Bool
  | .str _ => true
  | .bool _ => true
  | .num c => c != "NaN"
  | _ => false

theorem svz_eq_strict (c v : JsVal) (hc : plainConst c = true) :
    sameValueZeroPrim c v = strictEqPrim v c := by
  cases c with
  | str a => cases v with
    | str b => exact Bool.beq_comm
    | _ => rfl
  | bool a => cases v with
    | bool b => exact Bool.beq_comm
    | _ => rfl
  | num a => cases v with
    | num b => exact numSameValueZero_eq_strict (by simpa [plainConst] using hc) b
    | _ => rfl
  | _ => cases hc

theorem plainConst_not_null {c : JsVal} (h : plainConst c = true) :
    c.isNullish = false ∧ (match (generalizing := false) c with | .null => true | _ => false) = false := by
  cases c with
  | str _ | bool _ | num _ => exact ⟨rfl, rfl⟩
  | _ => cases h

theorem anyShort_consts (env : Env) (strict : Bool) (n : Nat) (v : JsVal) : ∀ (vs : List JsVal),
    (∀ c ∈ vs, plainConst c = true) →
    anyShort (fun t => validate env strict (n+1) t v) (vs.map .const) =
      .ok (vs.any (fun c => sameValueZeroPrim c v)) := by
  intro vs
  induction vs with
  | nil => intro _; rfl
  | cons c cs ih =>
    intro hvs
    have hc := hvs c List.mem_cons_self
    rw [List.map_cons, anyShort, validate_const, (plainConst_not_null hc).1, List.any_cons, svz_eq_strict c v hc]
    cases strictEqPrim v c with
    | true => rfl
    | false => exact ih fun x hx => hvs x (List.mem_cons_of_mem _ hx)

theorem validate_consts (env : Env) (strict : Bool) (n : Nat) (vs : List JsVal) (v : JsVal) :
    validate env strict (n+1) (.consts vs) v =
      .ok ((v.isNullish && vs.any (fun c => match c with | .null => true | _ => false)) ||
        vs.any (fun c => sameValueZeroPrim c v)) := rfl

/-- The printer's literal-set dispatch is invisible at run time: for non-null, non-NaN literals `AnyOfConstsRuntype`
accepts exactly what the plain union of `ConstRuntype`s accepts. -/
theorem consts_eq_union_of_consts (env : Env) (strict : Bool) (n : Nat) (vs : List JsVal) (v : JsVal)
    (hvs : ∀ c ∈ vs, plainConst c = true) :
    validate env strict (n+2) (.consts vs) v = validate env strict (n+2) (.anyOf (vs.map .const)) v := by
  have hnull : vs.any (fun c => match c with | .null => true | _ => false) = false :=
    List.any_eq_false.2 fun c hc => by rw [(plainConst_not_null (hvs c hc)).2]; exact Bool.false_ne_true
  rw [validate_consts, validate_anyOf, anyShort_consts env strict n v vs hvs, hnull, Bool.and_false, Bool.false_or]

/-! ## Known deviations of the current code from the reference (D21, D22: the programs that `Spec.noNumberKey` /
`Spec.intersectionsOfObjects` exclude) and a repaired one (D12) -/

/-- D21: a number-keyed record rejects every non-empty object (keys are strings at run time). -/
theorem number_keyed_record_rejects :
    compiledAccepts (.bi "Record" [.kw "number", .kw "string"]) (.obj [("1", .str "a")]) = some false ∧
      Spec.mem [] 10 (.bi "Record" [.kw "number", .kw "string"]) (.obj [("1", .str "a")]) = some true ∧
      Spec.noNumberKey ⟨[], [("X", .bi "Record" [.kw "number", .kw "string"])]⟩ = false := by decide +kernel

/-- D22: an intersection with a non-object member rejects every non-object value. -/
theorem non_object_intersection_rejects :
    compiledAccepts (.inter [.union [.kw "string", .kw "number"], .union [.kw "number", .kw "boolean"]]) (.num "1") = some false ∧
      Spec.mem [] 10 (.inter [.union [.kw "string", .kw "number"], .union [.kw "number", .kw "boolean"]]) (.num "1") = some true ∧
      Spec.intersectionsOfObjects ⟨[], [("X", .inter [.union [.kw "string", .kw "number"], .union [.kw "number", .kw "boolean"]])]⟩ = false := by
  decide +kernel

/-- The repaired D12: a template literal validator matches whole strings. -/
theorem template_anchored :
    compiledAccepts (.tpl [.lit "a", .number]) (.str "zza1zz") = some false ∧
      compiledAccepts (.tpl [.lit "a", .number]) (.str "a1") = some true := by decide +kernel

/-- non-vacuity: a program with a generic alias, a recursive object type and a discriminated union compiles in the
model and agrees with the reference on concrete members and non-members -/
example :
    let decls := [Decl.alias "Box" ["T"] (.obj [("v", false, .ref "T" [])] none),
      Decl.alias "L" [] (.obj [("x", false, .kw "number"), ("next", true, .ref "L" [])] none)]
    let t := Ty.union [.ref "Box" [.kw "string"], .ref "L" []]
    (match compile ⟨decls, [("X", t)]⟩ with
      | .ok env [(_, rt)] =>
        validate env false 50 rt (.obj [("x", .num "1"), ("next", .obj [("x", .num "2")])]) == .ok true &&
        validate env false 50 rt (.obj [("v", .num "2")]) == .ok false &&
        validate env false 50 rt (.obj [("v", .str "s")]) == .ok true
      | _ => false) = true ∧
    Spec.mem decls 50 t (.obj [("x", .num "1"), ("next", .obj [("x", .num "2")])]) = some true ∧
    Spec.mem decls 50 t (.obj [("v", .num "2")]) = some false := by decide +kernel

end BeffVerif.C01
