import BeffVerif.Props.C03Report
/-!
# C03 — after a successful `validate`, `parseAfterValidation` never throws

`parseAV_no_throw`: in a closed environment, for a value `validate` accepted (same mode, same fuel), the parse step does
not end in an exception — for every runtype, value, option and fuel. The parse code has its own `throw`s
(`never`, the `AllOfParser` spread of a non-object, a discriminator without a parser, indexing a non-array): each is
excluded by what the successful validation established. The one that needs an argument of its own is the intersection:
every member's parsed value is spread into an object, which throws unless the parsed value is object-typed —
`parseAV` maps object-typed accepted inputs to object-typed results (through clones and deep merges of union branches).

`safeParse_no_throw` and `parse_only_documented_failure` follow with `validate_no_throw` and `report_no_throw`.
-/
namespace BeffVerif.C03
open BeffVerif RT JsVal

theorem clone_typeOf : ∀ (n : Nat) (v : JsVal), (clone n v).typeOf = v.typeOf := by
  intro n v
  cases n with
  | zero => rfl
  | succ n => cases v <;> rfl

theorem deepmerge2_typeOf (n : Nat) (t s : JsVal) (hs : s.typeOf = "object") : (deepmerge2 n t s).typeOf = "object" := by
  cases n with
  | zero => exact hs
  | succ n =>
    -- the source is returned as it is, cloned, or (two arrays, two plain objects) merged into an array or an object
    cases s with
    | arr ss =>
      cases t with
      | arr ts => rfl
      | _ => exact (clone_typeOf n _).trans hs
    | obj sp =>
      cases t with
      | obj tp => rfl
      | _ => exact (clone_typeOf n _).trans hs
    | _ => exact hs

theorem deepmergeAll_typeOf (n : Nat) : ∀ (items : List JsVal), (∀ x ∈ items, x.typeOf = "object") →
    (deepmergeAll n items).typeOf = "object" := by
  intro items h
  match items, h with
  | [], _ => rfl
  | [a], h => exact (clone_typeOf n a).trans (h a List.mem_cons_self)
  | [a, b], h => exact deepmerge2_typeOf n a b (h b (List.mem_cons_of_mem _ List.mem_cons_self))
  | a :: b :: c :: rest, h =>
    exact List.foldlRecOn (motive := fun acc : JsVal => acc.typeOf = "object") (b :: c :: rest) _
      (deepmerge2_typeOf n .undef a (h a List.mem_cons_self))
      fun acc _ x hx => deepmerge2_typeOf n acc x (h x (List.mem_cons_of_mem _ hx))

section
variable (env : Env) (o : ParseOpts) (henv : ∀ name t, env.lookup name = some t → Closed env t)

/-- at fuel `n`: no exception, and object-typed inputs give object-typed results (what `parse_holds`, below, proves for every
fuel in `Res.Holds` form) -/
def PS (n : Nat) : Prop := ∀ rt v, Closed env rt → validate env o.strict n rt v = .ok true →
  (∀ c, parseAV env o n rt v ≠ .throw c) ∧ (∀ r, parseAV env o n rt v = .ok r → v.typeOf = "object" → r.typeOf = "object")

theorem anyOf_fold_holds {Q : JsVal → Prop} {T : String → Prop} {vf : RT → JsVal → Res Bool} {pf : RT → JsVal → Res JsVal}
    (input : JsVal) (ts : List RT) (hvf : ∀ t ∈ ts, (vf t input).Holds (fun _ => True) T)
    (hpf : ∀ t ∈ ts, vf t input = .ok true → (pf t input).Holds Q T)
    (items0 : List JsVal) (h0 : ∀ x ∈ items0, Q x) :
    (foldRes (fun (items : List JsVal) t =>
      match vf t input with
      | .ok true => match pf t input with
        | .ok p => .ok (items ++ [p])
        | .throw c => .throw c
        | .nofuel => .nofuel
      | .ok false => .ok items
      | .throw c => .throw c
      | .nofuel => .nofuel) items0 ts).Holds (fun items => ∀ x ∈ items, Q x) T := by
  refine holds_foldRes h0 fun items t ht hi => ?_
  have hv := hvf t ht
  have hp := hpf t ht
  generalize vf t input = r at hv hp
  cases r with
  | ok b =>
    cases b with
    | false => exact hi
    | true =>
      have hp := hp rfl
      dsimp only
      generalize pf t input = q at hp
      cases q with
      | ok p => exact fun x hx => (List.mem_append.1 hx).elim (hi x) fun hx => List.mem_singleton.1 hx ▸ hp
      | throw c => exact hp
      | nofuel => trivial
  | throw c => exact hv
  | nofuel => trivial

/-- object-typedness of every item collected by the union loop -/
theorem anyOf_items_typeOf (n : Nat) (hP : PS env o n) (input : JsVal) (hobj : input.typeOf = "object") :
    ∀ (ts : List RT) (items0 items : List JsVal), (∀ t ∈ ts, Closed env t) → (∀ x ∈ items0, x.typeOf = "object") →
    foldRes (fun (items : List JsVal) t =>
      match validate env o.strict n t input with
      | .ok true => match parseAV env o n t input with
        | .ok p => .ok (items ++ [p])
        | .throw c => .throw c
        | .nofuel => .nofuel
      | .ok false => .ok items
      | .throw c => .throw c
      | .nofuel => .nofuel) items0 ts = .ok items → ∀ x ∈ items, x.typeOf = "object" := by
  intro ts items0 items hc h0 h
  refine (anyOf_fold_holds (Q := fun r => r.typeOf = "object") (T := fun _ => True) input ts
    (fun _ _ => Res.holds_trivial _) (fun t ht hv => Res.holds_of_ok fun r hq => (hP t input (hc t ht) hv).2 r hq hobj)
    items0 h0).of_ok h

include henv in
theorem parseIndexedKey_holds {pf : RT → JsVal → Res JsVal} (n : Nat) (input : JsVal) (k : String) :
    ∀ (indexed : List (RT × RT)) (acc : List (String × JsVal)), (∀ p ∈ indexed, Closed env p.1 ∧ Closed env p.2) →
    (∀ p ∈ indexed, ∀ x, validate env o.strict n p.1 x = .ok true → (pf p.1 x).Holds (fun _ => True) fun _ => False) →
    (∀ p ∈ indexed, ∀ x, validate env o.strict n p.2 x = .ok true → (pf p.2 x).Holds (fun _ => True) fun _ => False) →
    (parseIndexedKey (validate env o.strict n) pf indexed input k acc).Holds (fun _ => True) fun _ => False
  | [], _, _, _, _ => trivial
  | p :: ps, acc, hci, h1, h2 => by
    have ih := fun acc' => parseIndexedKey_holds n input k ps acc' (fun q hq => hci q (List.mem_cons_of_mem _ hq))
      (fun q hq => h1 q (List.mem_cons_of_mem _ hq)) (fun q hq => h2 q (List.mem_cons_of_mem _ hq))
    have hk := Res.holds_of_ne_throw fun c => validate_no_throw env o.strict henv n p.1 (.str k) c (hci p List.mem_cons_self).1
    have hv := Res.holds_of_ne_throw fun c =>
      validate_no_throw env o.strict henv n p.2 (input.getProp k) c (hci p List.mem_cons_self).2
    have hp1 := h1 p List.mem_cons_self (.str k)
    have hp2 := h2 p List.mem_cons_self (input.getProp k)
    dsimp only [parseIndexedKey]
    generalize validate env o.strict n p.1 (.str k) = a at hk hp1
    cases a with
    | ok kb =>
      cases kb with
      | false => exact ih _
      | true =>
        dsimp only
        generalize validate env o.strict n p.2 (input.getProp k) = b at hv hp2
        cases b with
        | ok vb =>
          cases vb with
          | false => exact ih _
          | true =>
            have hp2 := hp2 rfl
            have hp1 := hp1 rfl
            dsimp only
            generalize pf p.2 (input.getProp k) = q2 at hp2
            cases q2 with
            | ok itemParsed =>
              dsimp only
              generalize pf p.1 (.str k) = q1 at hp1
              cases q1 with
              | ok keyParsed => exact ih _
              | throw c => exact hp1
              | nofuel => trivial
            | throw c => exact hp2
            | nofuel => trivial
        | throw c => exact hv
        | nofuel => trivial
    | throw c => exact hk
    | nofuel => trivial

include henv in
theorem parse_holds : ∀ n rt v, Closed env rt → validate env o.strict n rt v = .ok true →
    (parseAV env o n rt v).Holds (fun r => v.typeOf = "object" → r.typeOf = "object") fun _ => False := by
  intro n
  induction n with
  | zero => exact fun _ _ _ hv => nomatch hv
  | succ k IH =>
    intro rt v hc hv
    rw [validate_succ] at hv
    have cl := fun {t} (ht : Child env rt t) => ht.anyNode_false henv hc
    have ih := fun {t} (ht : Child env rt t) x (hx : validate env o.strict k t x = .ok true) =>
      (IH t x (cl ht) hx).mono fun _ _ => trivial
    have all := fun {α : Type} {f : α → Res JsVal} {l : List α} (h : ∀ x ∈ l, (f x).Holds (fun _ => True) fun _ => False) =>
      holds_mapM' h
    cases rt with
    | never => cases hv
    | described d t => exact IH t v (cl .described) hv
    | ref name =>
      dsimp only [parseAV]
      cases hl : env.lookup name with
      | none => exact absurd hl hc.ref
      | some t =>
        dsimp only [validateStep] at hv
        rw [hl] at hv
        exact IH t v (cl (.ref hl)) hv
    | optional t =>
      dsimp only [parseAV]
      refine Res.Holds.ite (fun _ h => h) fun hn => IH t v (cl .optional) (eq_of_ite_neg hn hv)
    | array t =>
      cases v with
      | arr items =>
        have hm := all fun x hx => ih .array x ((allShort_true_iff _ _).1 hv x hx)
        dsimp only [parseAV]
        generalize mapM' _ items = r at hm
        cases r with
        | ok rs => exact fun _ => rfl
        | throw c => exact hm
        | nofuel => trivial
      | _ => cases hv
    | set t =>
      cases v with
      | set xs =>
        have hm := all fun x hx => ih .set x ((allShort_true_iff _ _).1 hv x hx)
        dsimp only [parseAV]
        generalize mapM' _ xs = r at hm
        cases r with
        | ok rs => exact fun _ => rfl
        | throw c => exact hm
        | nofuel => trivial
      | _ => cases hv
    | map kt vt =>
      cases v with
      | map es =>
        dsimp only [parseAV]
        generalize hr : mapM' _ es = r
        have hm : r.Holds (fun _ => True) fun _ => False := by
          rw [← hr]
          refine (holds_mapM' (P := fun _ => True) fun e he => ?_).mono fun _ _ => trivial
          obtain ⟨h1, h2⟩ := Res.andThen_eq_true.1 ((allShort_true_iff _ _).1 hv e he)
          have a := ih .mapKey e.1 h1
          have b := ih .mapVal e.2 h2
          generalize parseAV env o k kt e.1 = q1 at a
          cases q1 with
          | ok _ =>
            dsimp only
            generalize parseAV env o k vt e.2 = q2 at b
            cases q2 with
            | ok _ => trivial
            | throw c => exact b
            | nofuel => trivial
          | throw c => exact a
          | nofuel => trivial
        cases r with
        | ok rs => exact fun _ => rfl
        | throw c => exact hm
        | nofuel => trivial
      | _ => cases hv
    | tuple pre rest =>
      cases v with
      | arr items =>
        obtain ⟨h1, h2⟩ := Res.andThen_eq_true.1 hv
        dsimp only [parseAV]
        generalize hr : mapM' _ (pre.zip _) = r
        have hm : r.Holds (fun _ => True) fun _ => False := by
          rw [← hr]
          exact (all fun p hp => ih (.tuplePre (List.of_mem_zip hp).1) _ ((allShort_true_iff _ _).1 h1 p hp)).mono
            fun _ _ => trivial
        cases r with
        | ok ps =>
          cases rest with
          | none => exact fun _ => rfl
          | some r' =>
            have hm2 := all fun x hx => ih .tupleRest x ((allShort_true_iff _ _).1 h2 x hx)
            dsimp only
            generalize mapM' _ (items.drop pre.length) = r2 at hm2
            cases r2 with
            | ok rs => exact fun _ => rfl
            | throw c => exact hm2
            | nofuel => trivial
        | throw c => exact hm
        | nofuel => trivial
      | _ => cases hv
    | allOf ts =>
      dsimp only [parseAV]
      generalize hr : foldRes _ [] ts = r
      have hm : r.Holds (fun _ => True) fun _ => False := by
        rw [← hr]
        refine holds_foldRes trivial fun acc t ht _ => ?_
        -- the member accepts the value, so it is object-typed, so is what the member parses to, and the spread succeeds
        have hx := (allShort_true_iff _ _).1 hv t ht
        have hobj : (v.typeOf == "object") = true := by
          by_cases hq : (v.typeOf == "object") = true
          · exact hq
          · cases eq_of_ite_neg hq hx
        have hp := IH t v (cl (.allOf ht)) (eq_of_ite_pos hobj hx)
        generalize parseAV env o k t v = q at hp
        cases q with
        | ok parsed =>
          have hto : (parsed.typeOf != "object") = false := by simp [hp (by simpa using hobj)]
          dsimp only [spreadInto]
          rw [hto]
          trivial
        | throw c => exact hp
        | nofuel => trivial
      cases r with
      | ok acc => exact fun _ => rfl
      | throw c => exact hm
      | nofuel => trivial
    | anyOf ts =>
      have hm := anyOf_fold_holds (Q := fun r => v.typeOf = "object" → r.typeOf = "object") (T := fun _ => False) v ts
        (fun t ht => Res.holds_of_ne_throw fun c => validate_no_throw env o.strict henv k t v c (cl (.anyOf ht)))
        (fun t ht hvt => IH t v (cl (.anyOf ht)) hvt) [] (fun _ h => nomatch h)
      dsimp only [parseAV]
      generalize foldRes _ [] ts = r at hm
      cases r with
      | ok items => exact fun hobj => deepmergeAll_typeOf 1000 items fun x hx => hm x hx hobj
      | throw c => exact hm
      | nofuel => trivial
    | disc ss key mapping sm =>
      dsimp only [validateStep] at hv
      by_cases h1 : (!v.isObjectLike) = true
      · cases eq_of_ite_pos h1 hv
      · by_cases h2 : (v.getProp key).isNullish = true
        · cases eq_of_ite_pos h2 (eq_of_ite_neg h1 hv)
        · have hv := eq_of_ite_neg h2 (eq_of_ite_neg h1 hv)
          dsimp only [parseAV]
          cases hm : lookupMapping mapping (v.getProp key) with
          | none => rw [hm] at hv; cases hv
          | some t =>
            rw [hm] at hv
            obtain ⟨p, hp, e⟩ := lookupMapping_mem hm
            subst e
            have hq := IH p.2 v (cl (.disc hp)) hv
            dsimp only
            generalize parseAV env o k p.2 v = q at hq
            cases q with
            | ok parsed =>
              dsimp only
              cases spreadInto [] parsed <;> exact fun _ => rfl
            | throw c => exact hq
            | nofuel => trivial
    | object props indexed =>
      by_cases ho : (!(v.isObjectLike && !v.isArray)) = true
      · cases eq_of_ite_pos ho hv
      · have hallp := (allShort_true_iff _ _).1 (Res.andThen_eq_true.1 (eq_of_ite_neg ho hv)).1
        have prop : ∀ kk t, parseAV.lookupProp' props kk = some t →
            (parseAV env o k t (v.getProp kk)).Holds (fun _ => True) fun _ => False := by
          intro kk t hl
          have hp := lookupProp'_mem hl
          exact ih (.prop hp) _ (hallp _ hp)
        have idx := fun (kk : String) (acc : List (String × JsVal)) =>
          parseIndexedKey_holds env o henv k v kk indexed acc (fun p hp => ⟨cl (.ixKey hp), cl (.ixVal hp)⟩)
            (fun p hp x hx => ih (.ixKey hp) x hx) (fun p hp x hx => ih (.ixVal hp) x hx)
        dsimp only [parseAV]
        refine Res.Holds.ite (fun _ => ?_) fun _ => ?_
        · generalize hr : foldRes _ [] v.ownKeys = r
          have hm : r.Holds (fun _ => True) fun _ => False := by
            rw [← hr]
            refine holds_foldRes trivial fun acc kk _ _ => ?_
            cases hl : parseAV.lookupProp' props kk with
            | none => exact idx kk acc
            | some t =>
              have hp := prop kk t hl
              dsimp only
              generalize parseAV env o k t (v.getProp kk) = q at hp
              cases q with
              | ok _ => trivial
              | throw c => exact hp
              | nofuel => trivial
          cases r with
          | ok acc => exact fun _ => rfl
          | throw c => exact hm
          | nofuel => trivial
        · generalize hr : foldRes _ [] (sortStrings _) = r
          have hm : r.Holds (fun _ => True) fun _ => False := by
            rw [← hr]
            refine holds_foldRes trivial fun acc kk _ _ => Res.Holds.ite (fun _ => trivial) fun _ => ?_
            cases hl : parseAV.lookupProp' props kk with
            | none => trivial
            | some t =>
              have hp := prop kk t hl
              dsimp only
              generalize parseAV env o k t (v.getProp kk) = q at hp
              cases q with
              | ok _ => trivial
              | throw c => exact hp
              | nofuel => trivial
          cases r with
          | ok acc =>
            refine Res.Holds.ite (fun _ => ?_) fun _ _ => rfl
            have hm2 := holds_foldRes (I := fun _ => True) (T := fun _ => False) (b := acc)
              (l := sortStrings (v.ownKeys.filter fun kk => !((props.map (·.1)).contains kk))) trivial
              fun acc kk _ _ => idx kk acc
            generalize foldRes _ acc _ = r2 at hm2
            cases r2 with
            | ok acc => exact fun _ => rfl
            | throw c => exact hm2
            | nofuel => trivial
          | throw c => exact hm
          | nofuel => trivial
    | _ => exact fun h => h

end

/-- **After a successful validation the parse step never throws** (closed environment; every runtype, value, option, fuel) -/
theorem parseAV_no_throw (env : Env) (o : ParseOpts) (henv : ∀ name t, env.lookup name = some t → Closed env t)
    (n : Nat) (rt : RT) (v : JsVal) (hc : Closed env rt) (hv : validate env o.strict n rt v = .ok true) (c : String) :
    parseAV env o n rt v ≠ .throw c :=
  (parse_holds env o henv n rt v hc hv).ne_throw c

/-- **C03 (no foreign exception)**: in a closed environment `safeParse` never ends in an exception -/
theorem safeParse_no_throw (env : Env) (o : ParseOpts) (henv : ∀ name t, env.lookup name = some t → Closed env t)
    (n : Nat) (rt : RT) (v : JsVal) (hc : Closed env rt) (c : String) : safeParse env o n rt v ≠ .throw c := by
  intro h
  rcases safeParse_eq_throw.1 h with e | ⟨hv, e⟩ | ⟨_, e⟩
  · exact validate_no_throw env o.strict henv n rt v c hc e
  · exact parseAV_no_throw env o henv n rt v hc hv c e
  · exact report_no_throw env o.strict henv n rt [] v c hc e

/-- … hence `parse` either returns the parsed value or fails with its documented error, nothing else (it may only run out
of the model's fuel) -/
theorem parse_only_documented_failure (env : Env) (o : ParseOpts) (henv : ∀ name t, env.lookup name = some t → Closed env t)
    (n : Nat) (name : String) (rt : RT) (v : JsVal) (hc : Closed env rt) :
    (∃ d, parse env o n name rt v = .ok (.value d)) ∨
    (∃ es, parse env o n name rt v = .ok (.failed ("Failed to parse " ++ name ++ " - " ++ printErrors es))) ∨
    parse env o n name rt v = .nofuel := by
  unfold parse
  cases hs : safeParse env o n rt v with
  | ok r =>
    cases r with
    | success d => exact Or.inl ⟨d, rfl⟩
    | failure es => exact Or.inr (Or.inl ⟨es, rfl⟩)
  | throw c => exact absurd hs (safeParse_no_throw env o henv n rt v hc c)
  | nofuel => exact Or.inr (Or.inr rfl)

/-! ### non-vacuity: each `throw` of the parse code is real, and excluded only by the validation -/

/-- the intersection spread does throw on a non-object parsed value — for an input `validate` rejects -/
example : (match parseAV [] ⟨false, false⟩ 10 (.allOf [.typeof "string"]) (.str "x") with
    | .throw "Error:AllOfParser" => true | _ => false) = true ∧
    validate [] false 10 (.allOf [.typeof "string"]) (.str "x") = .ok false := by decide +kernel

/-- an accepted intersection input parses (a union member inside: deep merge of object-typed branches) -/
example : validate [] false 10 (.allOf [.anyOf [.object [("a", .typeof "number")] [], .typeof "string"], .object [] []])
      (.obj [("a", .num "1")]) = .ok true ∧
    (match parseAV [] ⟨false, false⟩ 10 (.allOf [.anyOf [.object [("a", .typeof "number")] [], .typeof "string"], .object [] []])
      (.obj [("a", .num "1")]) with | .ok (.obj [("a", .num "1")]) => true | _ => false) = true := by decide +kernel

end BeffVerif.C03
