import BeffVerif.Model.Totality
import BeffVerif.Model.TsCore
/-!
# C04 — compilation is total: code or located diagnostics, never a panic or a hang

What Lean can carry here: (1) the regenerated inventory of panic-capable / looping sites is completely classified;
(2) the location computation is total and stays inside the file for every position; (3) the model of the
compiler is total by construction and answers `diags` (never a crash class) on the modelled error kinds.
Panics, stack overflows and hangs of the REAL compiler are exhibited only by the search (see the check).
-/
namespace BeffVerif.C04
open BeffVerif Totality

/-- the site a row is about: file and normalised source line -/
def siteKey {γ : Type} (r : String × String × γ) : String × String := (r.1, r.2.1)

/-- For each row of `Gen.panicSites`, in order, the index of its site's row in `classified` (the generator sorts by code
point, `classified` is kept by hand). Every index occurs once (`position_perm`), so the tables are about the same sites:
`inventoryOk` and `noStale` are the two directions. When a table changes, `sites_eq` fails until `position` is rewritten:
an unclassified site finds no index, a stale row's index is left out. -/
def position : List Nat :=
  [0, 1, 2, 3, 4, 5, 6, 7, 8, 9, 10, 11, 12, 14, 13, 16, 15, 17, 18, 19, 20, 21, 22, 23, 24, 25, 26, 34, 27, 35, 28, 29,
   30, 31, 32, 33, 36, 37, 38, 39, 40, 41, 42, 43, 45, 44]

/-- Both sides unfold to lists of the same literals. Deciding equations between strings has the kernel work out their
bytes: dearer than the rest of the module together. -/
theorem sites_eq : Gen.panicSites.map siteKey = position.filterMap ((classified.map siteKey)[·]?) := rfl

theorem position_perm : position.Perm (List.range classified.length) := by decide +kernel

theorem mem_iff_of_positions {κ : Type} {l l' : List κ} {idx : List Nat} (h : l' = idx.filterMap (l[·]?))
    (hidx : idx.Perm (List.range l.length)) (x : κ) : x ∈ l' ↔ x ∈ l := by
  subst h
  rw [List.mem_filterMap]
  constructor
  · rintro ⟨i, -, e⟩
    exact List.mem_of_getElem? e
  · intro hx
    obtain ⟨j, hj, e⟩ := List.getElem_of_mem hx
    exact ⟨j, hidx.mem_iff.2 (List.mem_range.2 hj), e ▸ List.getElem?_eq_getElem hj⟩

theorem sites_iff (k : String × String) : k ∈ Gen.panicSites.map siteKey ↔ k ∈ classified.map siteKey :=
  mem_iff_of_positions sites_eq (List.length_map siteKey ▸ position_perm) k

theorem all_any_of_mem {α β κ : Type} {f : α → κ} {g : β → κ} {as : List α} {bs : List β} {p : α → β → Bool}
    (h : ∀ a ∈ as, f a ∈ bs.map g) (hp : ∀ a b, g b = f a → p a b = true) :
    (as.all fun a => bs.any fun b => p a b) = true := by
  rw [List.all_eq_true]
  intro a ha
  obtain ⟨b, hb, e⟩ := List.mem_map.1 (h a ha)
  exact List.any_eq_true.2 ⟨b, hb, hp a b e⟩

/-- every panic!/unreachable!/expect/unwrap/assert/loop site of beff-core and beff-wasm (non-test code) of the CURRENT
tree is classified; a new or rewritten site breaks this obligation. -/
theorem inventory_classified : inventoryOk = true :=
  -- `inventoryOk` compares file and line with `&&`, which is what `==` on the pair `siteKey` unfolds to
  all_any_of_mem (fun _ hs => (sites_iff _).1 (List.mem_map_of_mem hs)) fun s c (e : siteKey c = siteKey s) =>
    (beq_iff_eq.2 e : (siteKey c == siteKey s) = true)

theorem classification_not_stale : noStale = true :=
  all_any_of_mem (fun _ hc => (sites_iff _).2 (List.mem_map_of_mem hc)) fun c s (e : siteKey s = siteKey c) =>
    (beq_iff_eq.2 e.symm : (siteKey c == siteKey s) = true)

/-- line numbers are at least 1 and never exceed 1 + the number of newlines of the file, for EVERY position -/
theorem charPos_line_in_file (src : String) (pos : Nat) :
    1 ≤ (charPos src pos).1 ∧ (charPos src pos).1 ≤ 1 + (src.toUTF8.toList.filter (· == 10)).length :=
  ⟨Nat.le_add_right 1 _, Nat.add_le_add_left (List.Sublist.length_le ((List.take_sublist _ _).filter _)) 1⟩

/-- positions are monotone: a later byte position is never on an earlier line -/
theorem charPos_line_mono (src : String) (p q : Nat) (h : p ≤ q) : (charPos src p).1 ≤ (charPos src q).1 := by
  have hsub : (src.toUTF8.toList.take (p - 1)).Sublist (src.toUTF8.toList.take (q - 1)) :=
    List.take_sublist_take_left (Nat.sub_le_sub_right h 1)
  exact Nat.add_le_add_left (List.Sublist.length_le (hsub.filter (· == 10))) 1

theorem units_append (a b : List UInt8) : units (a ++ b) = units a + units b := by
  unfold units
  rw [List.filter_append, List.filter_append, List.length_append, List.length_append, Nat.add_add_add_comm]

theorem units_reverse (bs : List UInt8) : units bs.reverse = units bs := by
  unfold units
  rw [List.filter_reverse, List.filter_reverse, List.length_reverse, List.length_reverse]

theorem units_le (bs : List UInt8) : units bs ≤ 2 * bs.length := by
  rw [Nat.two_mul]
  exact Nat.add_le_add (List.length_filter_le _ _) (List.length_filter_le _ _)

/-- the column never exceeds twice the number of bytes before the position (a 4-byte character is two units) -/
theorem charPos_col_bounded (src : String) (pos : Nat) : (charPos src pos).2 ≤ 2 * (pos - 1) := by
  unfold charPos
  simp only []
  calc _ ≤ 2 * ((src.toUTF8.toList.take (pos - 1)).reverse.takeWhile (· != 10)).length := units_le _
    _ ≤ 2 * (src.toUTF8.toList.take (pos - 1)).reverse.length :=
        Nat.mul_le_mul_left 2 (List.Sublist.length_le (List.takeWhile_sublist _))
    _ ≤ 2 * (pos - 1) := by
        rw [List.length_reverse, List.length_take]
        exact Nat.mul_le_mul_left 2 (Nat.min_le_left _ _)

/-- **the column lies within its line**: for EVERY file and position, the column is at most the width, in UTF-16 units, of the
line the position is on (the bytes from the last newline before the position to the next newline after it) -/
theorem charPos_col_in_line (src : String) (pos : Nat) :
    (charPos src pos).2 ≤ units (((src.toUTF8.toList.take (pos - 1)).reverse.takeWhile (· != 10)).reverse ++
      (src.toUTF8.toList.drop (pos - 1)).takeWhile (· != 10)) := by
  rw [units_append, units_reverse]
  exact Nat.le_add_right _ _

/-- the compiler model never crashes: on every program it returns code, a diagnostic class, or reports its own fuel
exhaustion (it has no panic outcome) -/
theorem model_outcome_total (p : Prog) (fuel : Nat) :
    (∃ env ps, compile p fuel = .ok env ps) ∨ (∃ m, compile p fuel = .diags m) ∨ compile p fuel = .nofuel := by
  cases h : compile p fuel with
  | ok env ps => exact Or.inl ⟨env, ps, rfl⟩
  | diags m => exact Or.inr (Or.inl ⟨m, rfl⟩)
  | nofuel => exact Or.inr (Or.inr rfl)

/-- modelled error kinds produce a diagnostic, not code: witnesses -/
theorem modelled_errors_are_diagnostics :
    (match compile ⟨[], [("X", .ref "Missing" [])]⟩ with | .diags _ => true | _ => false) = true ∧
    (match compile ⟨[], [("X", .bi "Partial" [.kw "string"])]⟩ with | .diags _ => true | _ => false) = true ∧
    (match compile ⟨[], [("X", .kw "symbol")]⟩ with | .diags _ => true | _ => false) = true ∧
    (match compile ⟨[.alias "A" [] (.kw "string")], [("X", .ref "A" [.kw "number"])]⟩ with | .diags _ => true | _ => false) = true := by
  decide +kernel

/-- location witnesses (a character of the basic plane counts as one column, an emoji as two) -/
example : spanToLoc "/* 😀 */ type A = Ghost;" 21 26 = ((1, 18), (1, 23)) := by decide +kernel
example : spanToLoc "type A = é;\ntype B = 1;" 14 18 = ((2, 0), (2, 4)) := by decide +kernel
example : spanToLoc "ab\ncd" 0 0 = ((1, 0), (2, 2)) := by decide +kernel

end BeffVerif.C04
