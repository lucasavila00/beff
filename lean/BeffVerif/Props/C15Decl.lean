import BeffVerif.Props.C15
/-!
# C15 — describe() declares the shared named types it prints by name

`describeRT_keeps`: a call of the description printer leaves the reference counts and the expansion marks as it found them
and never drops a declaration. `shared_ref_declared`: a reference to a shared named type (counted more than once) that is
printed outside its own expansion is declared when the print returns. Together with `describe_definitions_nodup`
(at most once): every shared named type that `describe()` prints by name is declared exactly once, and stays declared.
-/
namespace BeffVerif.C15
open BeffVerif RT

/-- what a call of the printer may change: nothing but new declarations -/
def Keeps (c c' : DescCtx) : Prop :=
  c'.refCounts = c.refCounts ∧ c'.activeRefs = c.activeRefs ∧
    ∀ k, c.definitions.any (fun p => p.1 == k) = true → c'.definitions.any (fun p => p.1 == k) = true

theorem Keeps.refl (c : DescCtx) : Keeps c c := ⟨rfl, rfl, fun _ h => h⟩

theorem Keeps.trans {a b c : DescCtx} (h1 : Keeps a b) (h2 : Keeps b c) : Keeps a c :=
  ⟨h2.1.trans h1.1, h2.2.1.trans h1.2.1, fun k hk => h2.2.2 k (h1.2.2 k hk)⟩

theorem define_keeps (c : DescCtx) (n : String) (d : TypeDesc) : Keeps c (c.define n d) :=
  ite_elim (Keeps c) (fun _ => .refl c) fun _ => ⟨rfl, rfl, fun k hk => by rw [List.any_append, hk, Bool.true_or]⟩

theorem define_declares (c : DescCtx) (n : String) (d : TypeDesc) : (c.define n d).definitions.any (fun p => p.1 == n) = true :=
  ite_elim (fun x : DescCtx => x.definitions.any (fun p => p.1 == n) = true) (fun h => h) fun _ => by
    rw [List.any_append, List.any_cons, beq_self_eq_true, Bool.true_or, Bool.or_true]

theorem filter_append_self {l : List String} {name : String} (h : l.contains name = false) :
    (l ++ [name]).filter (· != name) = l := by
  rw [List.filter_append, List.filter_eq_self.2, List.filter_cons_of_neg (by simp), List.filter_nil, List.append_nil]
  intro x hx
  rw [bne_iff_ne]
  rintro rfl
  rw [List.contains_iff_mem.2 hx] at h
  cases h

/-- a call of the printer keeps counts and marks, and never drops a declaration -/
theorem describeRT_keeps (env : Env) : ∀ (n : Nat) (rt : RT) (c : DescCtx), Keeps c (describeRT env n rt c).2 := by
  refine describeRT_rel Keeps.refl Keeps.trans env fun c c' name d hact hin => ?_
  -- the target was printed with `name` marked; unmarking restores the marks, and declaring `name` drops nothing
  refine Keeps.trans ?_ (define_keeps _ name d)
  refine ⟨hin.1, ?_, hin.2.2⟩
  show List.filter (· != name) c'.activeRefs = c.activeRefs
  rw [hin.2.1]
  exact filter_append_self (Bool.eq_false_iff.2 hact)

/-- a shared named type printed outside its own expansion is declared when the print returns -/
theorem shared_ref_declared (env : Env) (n : Nat) (name : String) (to : RT) (c : DescCtx)
    (hl : env.lookup name = some to) (hc : c.count name > 1) (ha : c.activeRefs.contains name = false) :
    (describeRT env (n+1) (.ref name) c).2.definitions.any (fun p => p.1 == name) = true := by
  simp only [describeRT, hl, hc, if_true, ha, Bool.false_eq_true, if_false]
  split
  · rename_i h; exact h
  · exact define_declares _ _ _

/-- once declared, declared after every later print -/
theorem declared_stays (env : Env) (n : Nat) (rt : RT) (c : DescCtx) (name : String)
    (h : c.definitions.any (fun p => p.1 == name) = true) :
    (describeRT env n rt c).2.definitions.any (fun p => p.1 == name) = true :=
  (describeRT_keeps env n rt c).2.2 name h

/-- a call entered without expansion marks returns without them: no printed name is left waiting for its declaration -/
theorem describe_marks_cleared (env : Env) (fuel : Nat) (rt : RT) (c : DescCtx) (h : c.activeRefs = []) :
    (describeRT env fuel rt c).2.activeRefs = [] := by
  rw [(describeRT_keeps env fuel rt c).2.1, h]

end BeffVerif.C15
