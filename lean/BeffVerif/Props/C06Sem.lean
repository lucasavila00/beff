import BeffVerif.Props.C05
import BeffVerif.Props.C06
/-!
# C06 at the level of type vectors (SemType)

`SemTypeOps::{intersect, union, diff, complement}` (semtype.rs) combine the per-tag components; the object and list
components are decision diagrams. Whatever membership reading `ρM`, `ρL` one fixes for the mapping / list atoms, the
operations on the WHOLE vector are the set operations — for every scalar value and for every object-like / list-like
value. Lifts `bdd_*_exact` (C06) and the literal-set algebra (C05) through the tag dispatch.
-/
namespace BeffVerif.C06
open BeffVerif Sem C05

/-- the values a type vector talks about: scalars, or a structured value known only through which atoms contain it -/
inductive Val where
  | scalar (s : Scalar)
  | objectLike
  | listLike

def subBddHas (ρ : Atom → Bool) : Sem.Sub Bdd → Bool
  | .none => false
  | .all => true
  | .some b => Bdd.eval ρ b

def den (ρM ρL : Atom → Bool) (t : SemType) : Val → Bool
  | .scalar s => hasScalar t s
  | .objectLike => subBddHas ρM t.mapping
  | .listLike => subBddHas ρL t.list

theorem subInter_bdd (ρ : Atom → Bool) (x y r : Sem.Sub Bdd) (h : subInter bddInter x y = some r) :
    subBddHas ρ r = (subBddHas ρ x && subBddHas ρ y) := by
  cases x <;> cases y <;> try (cases h; simp [subBddHas])
  obtain ⟨c, hc, rfl⟩ := Option.map_eq_some_iff.1 h
  exact bdd_intersect_exact fuelB _ _ c hc ρ

theorem subUnion_bdd (ρ : Atom → Bool) (x y r : Sem.Sub Bdd) (h : subUnion bddUnion x y = some r) :
    subBddHas ρ r = (subBddHas ρ x || subBddHas ρ y) := by
  cases x <;> cases y <;> try (cases h; simp [subBddHas])
  obtain ⟨c, hc, rfl⟩ := Option.map_eq_some_iff.1 h
  exact bdd_union_exact fuelB _ _ c hc ρ

theorem subDiff_bdd (ρ : Atom → Bool) (x y r : Sem.Sub Bdd)
    (h : subDiff (Bdd.complement fuelB) bddDiff x y = some r) :
    subBddHas ρ r = (subBddHas ρ x && !subBddHas ρ y) := by
  cases x <;> cases y <;> try (cases h; simp [subBddHas])
  · obtain ⟨c, hc, rfl⟩ := Option.map_eq_some_iff.1 h
    exact bdd_complement_exact fuelB _ c hc ρ
  · obtain ⟨c, hc, rfl⟩ := Option.map_eq_some_iff.1 h
    exact bdd_diff_exact fuelB _ _ c hc ρ

variable (fb : Sem.Sub Bool → Sem.Sub Bool → Option (Sem.Sub Bool))
  (fl : Sem.Sub LitSet → Sem.Sub LitSet → Option (Sem.Sub LitSet)) (fd : Sem.Sub Bdd → Sem.Sub Bdd → Option (Sem.Sub Bdd))
  (g : Bool → Bool → Bool)

/-- The shape `inter`, `union` and `diff` share (semtype.rs): each tag is combined on its own, the literal and diagram tags by
an operation that may fail, the flag tags by a Boolean operation. `Sem.inter a b`, `Sem.union a b`, `Sem.diff a b` unfold to
`zipTags … a b`; the three theorems below pass `h` as such, and `fb fl fd g` are read off the lemmas given for them. -/
def zipTags (a b : SemType) : Option SemType := do
  some { bool := ← fb a.bool b.bool, num := ← fl a.num b.num, str := ← fl a.str b.str, null := g a.null b.null,
         opt := g a.opt b.opt, mapping := ← fd a.mapping b.mapping, list := ← fd a.list b.list, vu := ← fl a.vu b.vu,
         other := g a.other b.other }

variable {fb fl fd g}

theorem zipTags_exact
    (hb : ∀ x y, ∃ r, fb x y = some r ∧ ∀ b, subBoolHas r b = g (subBoolHas x b) (subBoolHas y b))
    (hl : ∀ x y, ∃ r, fl x y = some r ∧ ∀ s, subLitHas r s = g (subLitHas x s) (subLitHas y s))
    (hd : ∀ ρ x y r, fd x y = some r → subBddHas ρ r = g (subBddHas ρ x) (subBddHas ρ y))
    (ρM ρL : Atom → Bool) (a b r : SemType) (h : zipTags fb fl fd g a b = some r) (v : Val) :
    den ρM ρL r v = g (den ρM ρL a v) (den ρM ρL b v) := by
  obtain ⟨rb, hb', h⟩ := bind_inv h
  obtain ⟨rn, hn, h⟩ := bind_inv h
  obtain ⟨rs, hs, h⟩ := bind_inv h
  obtain ⟨rm, hm, h⟩ := bind_inv h
  obtain ⟨rl, hl', h⟩ := bind_inv h
  obtain ⟨rv, hv, h⟩ := bind_inv h
  cases h
  obtain ⟨_, hb1, hb2⟩ := hb a.bool b.bool
  obtain ⟨_, hn1, hn2⟩ := hl a.num b.num
  obtain ⟨_, hs1, hs2⟩ := hl a.str b.str
  obtain ⟨_, hv1, hv2⟩ := hl a.vu b.vu
  cases hb1.symm.trans hb'; cases hn1.symm.trans hn; cases hs1.symm.trans hs; cases hv1.symm.trans hv
  cases v with
  | scalar s =>
    cases s with
    | bool c => exact hb2 c
    | num c => exact hn2 c
    | str c => exact hs2 c
    | vu c => exact hv2 c
    | null | absent | other => rfl
  | objectLike => exact hd ρM _ _ _ hm
  | listLike => exact hd ρL _ _ _ hl'

/-- **SemType intersection is ∩** for every value, whenever the operation answers -/
theorem semtype_intersect_exact (ρM ρL : Atom → Bool) (a b r : SemType) (h : inter a b = some r) (v : Val) :
    den ρM ρL r v = (den ρM ρL a v && den ρM ρL b v) :=
  zipTags_exact subInter_bool subInter_lit subInter_bdd ρM ρL a b r h v

/-- **SemType union is ∪** -/
theorem semtype_union_exact (ρM ρL : Atom → Bool) (a b r : SemType) (h : Sem.union a b = some r) (v : Val) :
    den ρM ρL r v = (den ρM ρL a v || den ρM ρL b v) :=
  zipTags_exact subUnion_bool subUnion_lit subUnion_bdd ρM ρL a b r h v

/-- **SemType difference is \\** -/
theorem semtype_diff_exact (ρM ρL : Atom → Bool) (a b r : SemType) (h : Sem.diff a b = some r) (v : Val) :
    den ρM ρL r v = (den ρM ρL a v && !den ρM ρL b v) :=
  zipTags_exact (g := fun x y => x && !y) subDiff_bool subDiff_lit subDiff_bdd ρM ρL a b r h v

/-- **SemType complement is ¬** (relative to `unknown`, which contains every value) -/
theorem semtype_complement_exact (ρM ρL : Atom → Bool) (a r : SemType) (h : Sem.complement a = some r) (v : Val) :
    den ρM ρL r v = !den ρM ρL a v := by
  rw [semtype_diff_exact ρM ρL unknown a r h v]
  cases v with
  | scalar s => cases s <;> rfl
  | objectLike => rfl
  | listLike => rfl

end BeffVerif.C06
