import BeffVerif.Model.Hash256
import BeffVerif.Lemmas.Sort
import BeffVerif.Lemmas.RT
/-!
# C13 — `hash256` terminates on recursive types

The model of `hash256(ctx)` (`RT.h256`) recurses into the DEFINITION of a named type, so its recursion is not structural
and the model carries fuel. This file proves the fuel adequate: `h256_total` — in an environment in which every name
resolves, every constant is a `Const` value and alias chains (`type A = B`) come to an end (`WF`, with a rank that
decreases along alias hops), the encoder answers for every runtype, every set of types under expansion and every offset as
soon as the fuel reaches `K * (D + 1) + w`, where `K` is the number of names not yet under expansion, `D` bounds the nesting
depth of the definitions and `w` that of the runtype. The argument is the one that makes the real recursion stop: a name
is expanded only while it is not active, an expansion makes it active, and between two expansions the recursion descends
into a definition of bounded depth — so the nesting of the real recursion is bounded by `names × (depth + 1)`. Mutually
recursive types need no base case for this (the non-vacuity example). An alias CYCLE (`type A = B; type B = A`) has no rank:
the real `hash256` does not return on it (the recorded D4 family: such programs compile).
-/
namespace BeffVerif.C13T
open BeffVerif RT Sha JsVal

section
variable (env : Env) (rank : String → Nat)

/-- `WF w rt`: every name resolves, constants are `Const` values, alias hops decrease the rank, nesting depth (a reference
to `name` counting `rank name + 1`) at most `w` -/
inductive WF : Nat → RT → Prop
  | typeof {w t} : WF (w + 1) (.typeof t)
  | any {w} : WF (w + 1) .any
  | nullish {w d} : WF (w + 1) (.nullish d)
  | never {w} : WF (w + 1) .never
  | const {w v} : (constToks v).isSome = true → WF (w + 1) (.const v)
  | regex {w tpl d} : WF (w + 1) (.regex tpl d)
  | date {w} : WF (w + 1) .date
  | bigint {w} : WF (w + 1) .bigint
  | typed {w c} : WF (w + 1) (.typed c)
  | strfmt {w fs} : WF (w + 1) (.strfmt fs)
  | numfmt {w fs} : WF (w + 1) (.numfmt fs)
  | consts {w vs} : (∀ v ∈ vs, (constToks v).isSome = true) → WF (w + 1) (.consts vs)
  | tuple {w pre rest} : (∀ t ∈ pre, WF w t) → (∀ r, rest = some r → WF w r) → WF (w + 1) (.tuple pre rest)
  | allOf {w ts} : (∀ t ∈ ts, WF w t) → WF (w + 1) (.allOf ts)
  | anyOf {w ts} : (∀ t ∈ ts, WF w t) → WF (w + 1) (.anyOf ts)
  | array {w t} : WF w t → WF (w + 1) (.array t)
  | map {w k v} : WF w k → WF w v → WF (w + 1) (.map k v)
  | set {w t} : WF w t → WF (w + 1) (.set t)
  | disc {w ss key m sm} : (∀ t ∈ ss, WF w t) → (∀ p ∈ m, WF w p.2) → WF (w + 1) (.disc ss key m sm)
  | optional {w t} : WF w t → WF (w + 1) (.optional t)
  | object {w props ix} : (∀ p ∈ props, WF w p.2) → (∀ p ∈ ix, WF w p.1) → (∀ p ∈ ix, WF w p.2) → WF (w + 1) (.object props ix)
  | ref {w name to} : env.lookup name = some to → (∀ other, stripDescribed to = .ref other → rank other < rank name) →
      rank name ≤ w → WF (w + 1) (.ref name)
  | described {w d t} : WF w t → WF (w + 1) (.described d t)

/-- names of the environment that are not under expansion -/
def K (act : List (String × Nat)) : Nat :=
  ((env.map (·.1)).filter (fun n => !(act.any (fun p => p.1 == n)))).length
end

variable {env : Env} {rank : String → Nat}

theorem filter_length_lt {α : Type} (p q : α → Bool) (l : List α) (hqp : ∀ x, q x = true → p x = true)
    (a : α) (ha : a ∈ l) (hpa : p a = true) (hqa : q a = false) : (l.filter q).length < (l.filter p).length := by
  have e : (l.filter p).filter q = l.filter q := by
    rw [List.filter_filter]
    exact List.filter_congr fun x _ => by cases h : q x <;> simp [hqp x, h]
  have hs : (l.filter q).Sublist (l.filter p) := e ▸ List.filter_sublist
  refine Nat.lt_of_le_of_ne hs.length_le fun hlen => ?_
  have hm : a ∈ l.filter q := hs.eq_of_length hlen ▸ List.mem_filter.2 ⟨ha, hpa⟩
  rw [List.mem_filter, hqa] at hm
  exact Bool.noConfusion hm.2

theorem lookup_mem {name : String} {to : RT} (h : env.lookup name = some to) : (name, to) ∈ env := RT.lookup_mem h

theorem lookup_mem_names {name : String} {to : RT} (h : env.lookup name = some to) : name ∈ env.map (·.1) :=
  List.mem_map.2 ⟨_, lookup_mem h, rfl⟩

/-- an expansion makes one more name active -/
theorem K_push {act : List (String × Nat)} {name : String} {to : RT} {pos : Nat} (hl : env.lookup name = some to)
    (hf : act.find? (fun p => p.1 == name) = none) : K env ((name, pos) :: act) < K env act := by
  refine filter_length_lt _ _ _ (fun x hx => ?_) name (lookup_mem_names hl) ?_ ?_
  · rw [List.any_cons, Bool.not_or, Bool.and_eq_true] at hx
    exact hx.2
  · rw [Bool.not_eq_true', List.any_eq_false]
    exact List.find?_eq_none.1 hf
  · rw [List.any_cons, beq_self_eq_true, Bool.true_or]; rfl

/-- one name fewer to expand pays for a definition of depth at most `D` -/
theorem fuel_expand {k' k D w fuel : Nat} (hk : k' < k) (hf : k * (D + 1) + (w + 1) ≤ fuel + 1) :
    k' * (D + 1) + D ≤ fuel := by
  have : (k' + 1) * (D + 1) ≤ k * (D + 1) := Nat.mul_le_mul_right _ hk
  rw [Nat.add_mul, Nat.one_mul] at this
  omega

theorem wf_mono {w : Nat} {rt : RT} (h : WF env rank w rt) : WF env rank (w + 1) rt := by
  induction h with
  | ref hl ha hr => exact .ref hl ha (Nat.le_succ_of_le hr)
  -- every other rule has the bound of its premises plus one
  | _ => constructor <;> assumption

theorem wf_le {w w' : Nat} {rt : RT} (h : WF env rank w rt) (hle : w ≤ w') : WF env rank w' rt := by
  induction hle with
  | refl => exact h
  | step _ ih => exact wf_mono ih

theorem wf_alias {w : Nat} {to : RT} (h : WF env rank w to) {other : String} (hs : stripDescribed to = .ref other) :
    WF env rank (rank other + 1) (.ref other) := by
  induction h with
  | described _ ih => exact ih hs
  | ref hl ha _ => cases hs; exact .ref hl ha (Nat.le_refl _)
  | _ => cases hs

theorem pre_some {p : List Tok} {f : Nat → Option (List Tok)} (h : ∀ pos, (f pos).isSome = true) (pos : Nat) :
    (pre p f pos).isSome = true := by
  rw [pre, Option.isSome_map]; exact h _

theorem andThen_some {f g : Nat → Option (List Tok)} (hf : ∀ pos, (f pos).isSome = true) (hg : ∀ pos, (g pos).isSome = true)
    (pos : Nat) : (andThen f g pos).isSome = true := by
  obtain ⟨ts, e⟩ := Option.isSome_iff_exists.1 (hf pos)
  rw [andThen, e]
  exact Option.isSome_map.trans (hg _)

theorem seqT_some {α : Type} {f : α → Nat → Option (List Tok)} : ∀ (xs : List α), (∀ x ∈ xs, ∀ pos, (f x pos).isSome = true) →
    ∀ pos, (seqT f xs pos).isSome = true
  | [], _, _ => rfl
  | x :: xs, h, pos => by
    obtain ⟨ts, e⟩ := Option.isSome_iff_exists.1 (h x (List.mem_cons_self ..) pos)
    obtain ⟨r, e'⟩ := Option.isSome_iff_exists.1
      (seqT_some xs (fun y hy => h y (List.mem_cons_of_mem _ hy)) (pos + bytesLen ts))
    rw [seqT, e]; dsimp only; rw [e']; rfl

theorem mapMO_some {α β : Type} {f : α → Option β} : ∀ (xs : List α), (∀ x ∈ xs, (f x).isSome = true) → (mapMO f xs).isSome = true
  | [], _ => rfl
  | x :: xs, h => by
    obtain ⟨y, e⟩ := Option.isSome_iff_exists.1 (h x (List.mem_cons_self ..))
    obtain ⟨ys, e'⟩ := Option.isSome_iff_exists.1 (mapMO_some xs fun y hy => h y (List.mem_cons_of_mem _ hy))
    rw [mapMO, e, e']; rfl

theorem mem_sortBy {α : Type} {le : α → α → Bool} {l : List α} {x : α} (h : x ∈ sortBy le l) : x ∈ l :=
  (C10.sortBy_perm (le := le) l).mem_iff.1 h

/-- **`hash256` terminates**: with this much fuel the encoder answers -/
theorem h256_total (D : Nat) (henv : ∀ name to, env.lookup name = some to → WF env rank D to) :
    ∀ (fuel : Nat) (rt : RT) (w : Nat) (act : List (String × Nat)) (pos : Nat), WF env rank w rt →
      K env act * (D + 1) + w ≤ fuel → (h256 env fuel rt act pos).isSome = true := by
  intro fuel
  induction fuel with
  | zero =>
    intro rt w act pos hw hf
    induction hw <;> exact (Nat.not_succ_le_zero _ hf).elim
  | succ n ih =>
    intro rt w act pos hw hf
    have kid : ∀ {w' : Nat} {t : RT}, WF env rank w' t → w' + 1 = w → ∀ p, (h256 env n t act p).isSome = true :=
      fun {w' t} ht hww p => ih t w' act p ht (by subst hww; exact Nat.le_of_succ_le_succ hf)
    cases hw with
    | const h => exact Option.isSome_map.trans h
    | consts h => exact Option.isSome_map.trans (mapMO_some _ fun v hv => h v (mem_sortBy hv))
    | tuple h1 h2 =>
      refine pre_some (andThen_some (seqT_some _ fun t ht => kid (h1 t ht) rfl) ?_) pos
      rename_i rest
      cases rest with
      | none => intro _; rfl
      | some r => exact pre_some (kid (h2 r rfl) rfl)
    | allOf h => exact pre_some (seqT_some _ fun t ht => kid (h t ht) rfl) pos
    | anyOf h => exact pre_some (seqT_some _ fun t ht => kid (h t ht) rfl) pos
    | array h => exact pre_some (kid h rfl) pos
    | map h1 h2 => exact pre_some (andThen_some (kid h1 rfl) (kid h2 rfl)) pos
    | set h => exact pre_some (kid h rfl) pos
    | disc h1 h2 =>
      exact pre_some (andThen_some (seqT_some _ fun t ht => kid (h1 t ht) rfl)
        (pre_some (seqT_some _ fun p hp => pre_some (kid (h2 p (mem_sortBy hp)) rfl)))) pos
    | optional h => exact pre_some (kid h rfl) pos
    | object h1 h2 h3 =>
      exact pre_some (andThen_some (seqT_some _ fun p hp => pre_some (kid (h1 p (mem_sortBy hp)) rfl))
        (pre_some (seqT_some _ fun p hp => andThen_some (kid (h2 p hp) rfl) (kid (h3 p hp) rfl)))) pos
    | described h => exact kid h rfl pos
    | @ref w0 name to hl ha hr =>
      dsimp only [h256]
      rw [hl]
      dsimp only
      have hto := henv name to hl
      split
      · -- an alias hop: the rank decreases
        next other hs =>
          exact ih (.ref other) (rank other + 1) act pos (wf_alias hto hs)
            (Nat.le_trans (Nat.add_le_add_left (Nat.le_trans (ha other hs) hr) _) (Nat.le_of_succ_le_succ hf))
      · split
        · rfl
        · -- an expansion
          next hfind => exact ih to D _ pos hto (fuel_expand (K_push hl hfind) hf)
    | _ => rfl

/-- … in particular the token stream of a parser exists: `hash256Toks` uses fuel 200 -/
theorem hash256Toks_total (D w : Nat) (henv : ∀ name to, env.lookup name = some to → WF env rank D to) {rt : RT}
    (hw : WF env rank w rt) (hfuel : env.length * (D + 1) + w ≤ h256Fuel) : (hash256Toks env rt).isSome = true := by
  have hK : K env [] ≤ env.length := Nat.le_trans (List.length_filter_le _ _) (Nat.le_of_eq (List.length_map _))
  exact Option.isSome_map.trans (h256_total D henv h256Fuel rt w [] (bytesLen rootToks) hw
    (Nat.le_trans (Nat.add_le_add_right (Nat.mul_le_mul_right _ hK) _) hfuel))

/-! ### non-vacuity: two mutually recursive types without a base case, one reached through an alias -/

private def envT : Env :=
  [("A", .object [("b", .optional (.ref "B"))] []), ("B", .object [("a", .array (.ref "Al"))] []), ("Al", .described "doc" (.ref "A"))]
private def rankT (n : String) : Nat := if n = "Al" then 1 else 0

private theorem wfA : WF envT rankT 4 (.object [("b", .optional (.ref "B"))] []) := by
  refine .object (fun p hp => ?_) (fun p hp => by cases hp) (fun p hp => by cases hp)
  obtain rfl := List.mem_singleton.1 hp
  exact .optional (.ref (to := .object [("a", .array (.ref "Al"))] []) rfl (fun _ hs => by cases hs) (by decide))

private theorem wfB : WF envT rankT 4 (.object [("a", .array (.ref "Al"))] []) := by
  refine .object (fun p hp => ?_) (fun p hp => by cases hp) (fun p hp => by cases hp)
  obtain rfl := List.mem_singleton.1 hp
  exact .array (.ref (to := .described "doc" (.ref "A")) rfl (fun _ hs => by cases hs; decide) (by decide))

private theorem wfAl : WF envT rankT 4 (.described "doc" (.ref "A")) :=
  .described (.ref (to := .object [("b", .optional (.ref "B"))] []) rfl (fun _ hs => by cases hs) (by decide))

example : (hash256Toks envT (.ref "Al")).isSome = true := by
  refine hash256Toks_total (rank := rankT) 4 2 (fun name to hl => ?_)
    (.ref (to := .described "doc" (.ref "A")) rfl (fun _ hs => by cases hs; decide) (by decide)) (by decide)
  have hm := lookup_mem hl
  simp only [envT, List.mem_cons, List.mem_nil_iff, or_false, Prod.mk.injEq] at hm
  rcases hm with ⟨_, rfl⟩ | ⟨_, rfl⟩ | ⟨_, rfl⟩
  · exact wfA
  · exact wfB
  · exact wfAl

end BeffVerif.C13T
