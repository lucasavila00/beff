import BeffVerif.Model.Sha256
/-!
# C13 — the canonical token encoding is injective (self-delimiting)

`encodeToks` writes one tag byte per token, and for tags / strings / numbers a 4-byte big-endian length followed by
the UTF-8 bytes. For payloads shorter than 2³² bytes (the writer's own limit) two different token streams never have
the same byte stream: whatever collision `hash256` may have comes from SHA-256, not from the encoding.
-/
namespace BeffVerif.C13
open BeffVerif.Sha

/-! `utf8 s` is `s.toUTF8.toList`, and `ByteArray.toList` is a loop over `get!`: three lemmas turn it into the list of the
underlying array, for `utf8_inj`. -/

theorem get!_eq (bs : ByteArray) (i : Nat) (h : i < bs.data.toList.length) : bs.get! i = bs.data.toList[i] := by
  cases bs with
  | mk data =>
    have h' : i < data.size := by rw [Array.length_toList] at h; exact h
    show data[i]! = data.toList[i]
    rw [getElem!_pos data i h']
    simp

theorem toList_loop (bs : ByteArray) (i : Nat) (r : List UInt8) :
    ByteArray.toList.loop bs i r = r.reverse ++ bs.data.toList.drop i := by
  fun_induction ByteArray.toList.loop bs i r with
  | case1 i r hlt ih =>
    have hlen : i < bs.data.toList.length := hlt
    rw [ih, List.drop_eq_getElem_cons hlen, List.reverse_cons, List.append_assoc, get!_eq bs i hlen]
    rfl
  | case2 i r hge => rw [List.drop_eq_nil_of_le (Nat.le_of_not_lt hge), List.append_nil]

theorem toList_eq_data (bs : ByteArray) : bs.toList = bs.data.toList := toList_loop bs 0 []

theorem utf8_inj {a b : String} (h : utf8 a = utf8 b) : a = b := by
  unfold utf8 at h
  rw [toList_eq_data, toList_eq_data] at h
  apply String.toByteArray_inj.1
  have : a.toUTF8.data = b.toUTF8.data := Array.toList_inj.1 h
  unfold String.toUTF8 at this
  -- a `ByteArray` is a structure around its `data`
  cases ha : a.toByteArray
  cases hb : b.toByteArray
  simp_all

theorem ofNat_inj256 {a b : Nat} (ha : a < 256) (hb : b < 256) (h : UInt8.ofNat a = UInt8.ofNat b) : a = b := by
  have := congrArg UInt8.toNat h
  rwa [UInt8.toNat_ofNat', UInt8.toNat_ofNat', Nat.mod_eq_of_lt ha, Nat.mod_eq_of_lt hb] at this

theorem u32be_length (n : Nat) : (u32be n).length = 4 := rfl

theorem div_mod_inj {a b : Nat} (hd : a / 256 = b / 256) (hm : a % 256 = b % 256) : a = b := by
  rw [← Nat.div_add_mod a 256, ← Nat.div_add_mod b 256, hd, hm]

theorem byte_eq {a b : Nat} (h : UInt8.ofNat (a &&& 255) = UInt8.ofNat (b &&& 255)) : a % 256 = b % 256 := by
  have e (x : Nat) : x &&& 255 = x % 256 := Nat.and_two_pow_sub_one_eq_mod x 8
  rw [e, e] at h
  exact ofNat_inj256 (Nat.mod_lt _ (by decide)) (Nat.mod_lt _ (by decide)) h

theorem u32be_inj {n m : Nat} (hn : n < 2 ^ 32) (hm : m < 2 ^ 32) (h : u32be n = u32be m) : n = m := by
  unfold u32be at h
  simp only [List.cons.injEq, and_true, Nat.shiftRight_eq_div_pow] at h
  obtain ⟨h3, h2, h1, h0⟩ := h
  -- digit by digit from the most significant one, which is the whole quotient
  have d3 : n / 2 ^ 24 = m / 2 ^ 24 := by
    have := byte_eq h3
    rwa [Nat.mod_eq_of_lt (Nat.div_lt_of_lt_mul (k := 256) hn), Nat.mod_eq_of_lt (Nat.div_lt_of_lt_mul (k := 256) hm)] at this
  have d2 : n / 2 ^ 16 = m / 2 ^ 16 := div_mod_inj (by rw [Nat.div_div_eq_div_mul, Nat.div_div_eq_div_mul]; exact d3) (byte_eq h2)
  have d1 : n / 2 ^ 8 = m / 2 ^ 8 := div_mod_inj (by rw [Nat.div_div_eq_div_mul, Nat.div_div_eq_div_mul]; exact d2) (byte_eq h1)
  exact div_mod_inj d1 (byte_eq h0)

/-- the payload fits the 32-bit length field -/
def Tok.Valid : Tok → Prop
  | .tag s | .str s | .num s => (utf8 s).length < 2 ^ 32
  | _ => True

theorem withLen_prefix_free {s1 s2 : String} {r1 r2 : Bytes} (h1 : (utf8 s1).length < 2 ^ 32)
    (h2 : (utf8 s2).length < 2 ^ 32) (h : withLen s1 ++ r1 = withLen s2 ++ r2) : s1 = s2 ∧ r1 = r2 := by
  unfold withLen at h
  rw [List.append_assoc, List.append_assoc] at h
  obtain ⟨hl, hrest⟩ := List.append_inj h (by rw [u32be_length, u32be_length])
  have hlen := u32be_inj h1 h2 hl
  obtain ⟨hu, hr⟩ := List.append_inj hrest hlen
  exact ⟨utf8_inj hu, hr⟩

def tokKind : Tok → Nat
  | .tag _ => Gen.tagTag
  | .str _ => Gen.tagString
  | .num _ => Gen.tagNumber
  | .bool true => Gen.tagTrue
  | .bool false => Gen.tagFalse
  | .null => Gen.tagNull

theorem bytes_cons (t : Tok) : ∃ tl, t.bytes = UInt8.ofNat (tokKind t) :: tl := by
  cases t with
  | bool b => cases b <;> exact ⟨_, rfl⟩
  | _ => exact ⟨_, rfl⟩

theorem kind_lt (t : Tok) : tokKind t < 256 := by
  cases t with
  | bool b => cases b <;> exact Nat.le_of_ble_eq_true rfl
  | _ => exact Nat.le_of_ble_eq_true rfl

/-- no token's encoding is a proper prefix of another's: the next token and the rest are determined -/
theorem tok_prefix_free (t1 t2 : Tok) (r1 r2 : Bytes) (v1 : Tok.Valid t1) (v2 : Tok.Valid t2)
    (h : t1.bytes ++ r1 = t2.bytes ++ r2) : t1 = t2 ∧ r1 = r2 := by
  have hk : tokKind t1 = tokKind t2 := by
    obtain ⟨l1, e1⟩ := bytes_cons t1
    obtain ⟨l2, e2⟩ := bytes_cons t2
    rw [e1, e2] at h
    exact ofNat_inj256 (kind_lt _) (kind_lt _) (List.cons.inj h).1
  cases t1 with
  | tag s1 =>
    cases t2 with
    | tag s2 => obtain ⟨e, r⟩ := withLen_prefix_free v1 v2 (List.cons.inj h).2; exact ⟨by rw [e], r⟩
    | bool b => cases b <;> exact absurd hk (Nat.ne_of_beq_eq_false rfl)
    | _ => exact absurd hk (Nat.ne_of_beq_eq_false rfl)
  | str s1 =>
    cases t2 with
    | str s2 => obtain ⟨e, r⟩ := withLen_prefix_free v1 v2 (List.cons.inj h).2; exact ⟨by rw [e], r⟩
    | bool b => cases b <;> exact absurd hk (Nat.ne_of_beq_eq_false rfl)
    | _ => exact absurd hk (Nat.ne_of_beq_eq_false rfl)
  | num s1 =>
    cases t2 with
    | num s2 => obtain ⟨e, r⟩ := withLen_prefix_free v1 v2 (List.cons.inj h).2; exact ⟨by rw [e], r⟩
    | bool b => cases b <;> exact absurd hk (Nat.ne_of_beq_eq_false rfl)
    | _ => exact absurd hk (Nat.ne_of_beq_eq_false rfl)
  | bool b1 =>
    cases t2 with
    | bool b2 =>
      cases b1 <;> cases b2
      · exact ⟨rfl, (List.cons.inj h).2⟩
      · exact absurd hk (Nat.ne_of_beq_eq_false rfl)
      · exact absurd hk (Nat.ne_of_beq_eq_false rfl)
      · exact ⟨rfl, (List.cons.inj h).2⟩
    | _ => cases b1 <;> exact absurd hk (Nat.ne_of_beq_eq_false rfl)
  | null =>
    cases t2 with
    | null => exact ⟨rfl, (List.cons.inj h).2⟩
    | bool b => cases b <;> exact absurd hk (Nat.ne_of_beq_eq_false rfl)
    | _ => exact absurd hk (Nat.ne_of_beq_eq_false rfl)

theorem bytes_ne_nil (t : Tok) : t.bytes ≠ [] := by
  obtain ⟨tl, e⟩ := bytes_cons t
  rw [e]
  exact List.cons_ne_nil _ _

theorem encodeToks_cons (t : Tok) (ts : List Tok) : encodeToks (t :: ts) = t.bytes ++ encodeToks ts := by
  simp [encodeToks]

/-- **The token encoding is injective**: two streams of valid tokens with the same bytes are the same stream -/
theorem tokens_injective : ∀ (ts1 ts2 : List Tok), (∀ t ∈ ts1, Tok.Valid t) → (∀ t ∈ ts2, Tok.Valid t) →
    encodeToks ts1 = encodeToks ts2 → ts1 = ts2 := by
  intro ts1
  induction ts1 with
  | nil =>
    intro ts2 _ _ h
    cases ts2 with
    | nil => rfl
    | cons t ts =>
      rw [encodeToks_cons] at h
      exact absurd (List.append_eq_nil_iff.1 h.symm).1 (bytes_ne_nil t)
  | cons t1 rest1 ih =>
    intro ts2 v1 v2 h
    cases ts2 with
    | nil =>
      rw [encodeToks_cons] at h
      exact absurd (List.append_eq_nil_iff.1 h).1 (bytes_ne_nil t1)
    | cons t2 rest2 =>
      rw [encodeToks_cons, encodeToks_cons] at h
      obtain ⟨e, hr⟩ := tok_prefix_free t1 t2 _ _ (v1 t1 (List.mem_cons_self)) (v2 t2 (List.mem_cons_self)) h
      rw [e, ih rest2 (fun t ht => v1 t (List.mem_cons_of_mem _ ht)) (fun t ht => v2 t (List.mem_cons_of_mem _ ht)) hr]

end BeffVerif.C13
