import BeffVerif.Props.SchemaLayer
/-!
# C02 — a type JSON Schema cannot express makes flat schema printing throw

`njFree env n seen rt`: the traversal flat `schema()` makes of `rt` — through descriptions, tuples, unions, intersections,
arrays, optional wrappers, the variants of a discriminated union, the properties and index signatures of an object type, and
INTO the definition of every named type not yet being printed — meets no `Date`, `bigint`, typed array, `Map` or `Set`.
`flat_ok_njFree`: whenever flat printing returns a schema, that traversal was free of them — for every runtype, fuel, set of
names under expansion and context. Read the other way round (`flat_throws_on_nonjson`): a non-JSON type anywhere on the way makes
`schema()` throw (or run out of the model's fuel) — it never returns a schema that silently leaves the type out. The general
form of `nonjson_leaves_throw` (leaves only).
-/
namespace BeffVerif.C02N
open BeffVerif RT JsVal

/-- the traversal of flat schema printing meets no non-JSON type -/
def njFree (env : Env) : Nat → List String → RT → Bool
  | 0, _, _ => true
  | n+1, seen, rt =>
    match rt with
    | .date | .bigint | .typed _ | .map _ _ | .set _ => false
    | .described _ t => njFree env n seen t
    | .tuple pre rest => pre.all (njFree env n seen) && (match rest with | some r => njFree env n seen r | none => true)
    | .allOf ts => ts.all (njFree env n seen)
    | .anyOf ts => ts.all (njFree env n seen)
    | .array t => njFree env n seen t
    | .optional t => njFree env n seen t
    | .disc schemas _ _ _ => schemas.all (njFree env n seen)
    | .object props ix => props.all (fun p => njFree env n seen p.2) && ix.all (fun p => njFree env n seen p.1 && njFree env n seen p.2)
    | .ref name =>
      (match env.lookup name with
        | none => true
        | some to => seen.contains name || njFree env n (name :: seen) to)
    | _ => true

theorem layer_njFree {go : RT → SCtx → SRes JsVal} {env : Env} {o : SOpts} {n : Nat} {seen : List String} {desc : Option String}
    {rt : RT} {c : SCtx} {s : JsVal} {c' : SCtx} (hp : plain rt = true) (hq : ∀ t c s c', go t c = .ok s c' → njFree env n seen t = true)
    (h : layer o go desc rt c = .ok s c') : njFree env (n+1) seen rt = true := by
  rw [layer_eq] at h
  obtain ⟨vals, c1, e1, h⟩ := SRes.bind_eq_ok h
  have hk := seqS_each hq (order rt) c vals c1 e1
  cases rt with
  | tuple pre rest =>
    dsimp only [njFree]
    rw [Bool.and_eq_true, List.all_eq_true]
    refine ⟨fun t ht => hk t (List.mem_append_left _ ht), ?_⟩
    cases rest with
    | some r => exact hk r (List.mem_append_right _ (.head _))
    | none => rfl
  | allOf ts | anyOf ts => dsimp only [njFree]; rw [List.all_eq_true]; exact hk
  | array t | optional t => exact hk t (.head _)
  | object props ix =>
    dsimp only [njFree]
    simp only [Bool.and_eq_true, List.all_eq_true]
    refine ⟨fun p hp => hk _ (List.mem_append_left _ (List.mem_map.2 ⟨p, hp, rfl⟩)), fun p hp => ?_⟩
    have hix : ∀ t ∈ [p.1, p.2], njFree env n seen t = true :=
      fun t ht => hk t (List.mem_append_right _ (List.mem_flatMap.2 ⟨p, hp, ht⟩))
    exact ⟨hix _ (.head _), hix _ (.tail _ (.head _))⟩
  | date | bigint | typed _ | map _ _ | set _ => cases (SRes.ofOption_eq_ok h).1
  | described _ _ | ref _ | disc _ _ _ _ => cases hp
  | _ => rfl

/-- **flat printing that returns met no non-JSON type** -/
theorem flat_ok_njFree (env : Env) (o : SOpts) (hc : o.contextual = false) : ∀ (n : Nat) (rt : RT) (desc : Option String)
    (seen : List String) (c : SCtx) (s : JsVal) (c' : SCtx),
    schema env o n rt desc seen c = .ok s c' → njFree env n seen rt = true := by
  intro n
  induction n with
  | zero => intro rt desc seen c s c' _; rfl
  | succ n ih =>
    intro rt desc seen c s c' h
    rcases layer_cases rt with ⟨dd, t, rfl⟩ | ⟨name, rfl⟩ | ⟨schemas, key, mp, sm, rfl⟩ | hp
    · exact ih t (some dd) seen c s c' h
    · rw [schema_ref_flat env o n desc seen hc] at h
      obtain ⟨to, c0, e0, h0⟩ := SRes.bind_eq_ok h
      dsimp only [njFree]
      rw [(SRes.ofOption_eq_ok e0).1, Bool.or_eq_true]
      split at h0
      · rename_i hs; exact Or.inl hs
      · obtain ⟨s1, c1, e1, _⟩ := SRes.bind_eq_ok h0
        exact Or.inr (ih to none (name :: seen) c0 s1 c1 e1)
    · rw [schema_disc_flat env o n desc seen hc] at h
      obtain ⟨ss, c1, e1, _⟩ := SRes.bind_eq_ok h
      dsimp only [njFree]
      rw [List.all_eq_true]
      exact seqS_each (fun t => ih t none seen) schemas c ss c1 e1
    · rw [schema_plain env o n desc seen hp] at h
      exact layer_njFree hp (fun t => ih t none seen) h

/-- the other way round: a non-JSON type on the way, and flat printing does not return a schema -/
theorem flat_throws_on_nonjson (env : Env) (o : SOpts) (hc : o.contextual = false) (n : Nat) (rt : RT) (desc : Option String)
    (seen : List String) (c : SCtx) (hnj : njFree env n seen rt = false) : ∀ s c', schema env o n rt desc seen c ≠ .ok s c' := by
  intro s c' h
  rw [flat_ok_njFree env o hc n rt desc seen c s c' h] at hnj
  cases hnj

private def envT : Env := [("Ev", .object [("at", .date), ("next", .optional (.ref "Ev"))] [])]

/-- non-vacuity: a `Date` two levels down, behind a named recursive type -/
example : njFree envT 9 [] (.array (.ref "Ev")) = false := by decide +kernel

end BeffVerif.C02N
