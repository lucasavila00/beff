import BeffVerif.Props.C02Frag
/-!
# C02 — emitted JSON Schema and validator agree on JSON documents

Lean part, with the JSON Schema evaluator of Model/JsonSchema.lean: the verdict of the schemas of `typeof`, `nullish`, `any`
and `never` on EVERY JSON document (for `typeof` beside the validator's); the non-JSON leaves always throw in both printing modes; witnesses on the model for D13,
D19, D48. The composite constructors: on the structural fragment in Props/C02Sound.lean and Props/C02Complete.lean; beyond
it they are decided on the real schemas by python jsonschema (see the check).
-/
namespace BeffVerif.C02
open BeffVerif RT JsVal JS

def P0 : Params := ⟨[], fun _ => none, fun _ _ => true, fun _ _ => true⟩
def flat : SOpts := ⟨false, "", []⟩
def ctxOpts : SOpts := ⟨true, "#/$defs/{name}", []⟩

/-- a schema consisting of `type` only is decided by the type check -/
theorem valid_type_only (n : Nat) (t : String) (d : JsVal) :
    valid P0 (n+1) (.obj [("type", .str t)]) d = some (typeOk t d) :=
  C02F.validG_only_type (C02F.kwIn_lookup (by simp)) ((C02F.lookupProp_cons _ _ _).trans (if_pos rfl))

/-- `string`, `number`, `boolean`: a JSON document is valid against the emitted schema `{type: t}` exactly when the
validator accepts it (every document, every fuel). -/
theorem typeof_exact (t : String) (ht : t = "string" ∨ t = "number" ∨ t = "boolean") (n : Nat) (d : JsVal)
    (hd : isJson 50 d = true) :
    valid P0 (n+1) (.obj [("type", .str t)]) d = some (d.typeOf == t) ∧
      validate [] false 1 (.typeof t) d = .ok (d.typeOf == t) := by
  refine ⟨?_, rfl⟩
  rw [valid_type_only, C02E.typeOk_eq]
  cases d with
  | null | bool _ | num _ | str _ | arr _ | obj _ => rcases ht with rfl | rfl | rfl <;> simp only [JsVal.typeOf, String.reduceBEq]
  | _ => cases hd

/-- `null` / `undefined` / `void`: `{type: "null"}` accepts exactly the JSON null = what the validator accepts among
JSON documents. -/
theorem nullish_exact (n : Nat) (d : JsVal) (hd : isJson 50 d = true) :
    valid P0 (n+1) (.obj [("type", .str "null")]) d = some d.isNullish := by
  rw [valid_type_only, C02E.typeOk_eq]
  cases d with
  | undef => cases hd
  | null | bool _ | num _ | str _ | arr _ | obj _ => simp only [String.reduceBEq, JsVal.isNullish]
  | _ => rfl

/-- `any` / `unknown`: the empty schema accepts every document, as the validator does. -/
theorem any_exact (n : Nat) (d : JsVal) : valid P0 (n+1) (.obj []) d = some true := C02F.valid_empty P0 n d

/-- `never` (repaired D47): `{not: {}}` accepts no document, as the validator. -/
theorem never_exact (n : Nat) (d : JsVal) : valid P0 (n+2) (.obj [("not", .obj [])]) d = some false := by
  show validG P0 (valid P0 (n+1)) (lookupProp [("not", .obj [])]) d = some false
  rw [C02F.validG_only_not (C02F.kwIn_lookup (by simp)) ((C02F.lookupProp_cons _ _ _).trans (if_pos rfl)), any_exact]
  rfl

/-- Date, bigint, Map, Set and typed arrays make schema printing throw, in both modes, whatever the context. -/
theorem nonjson_leaves_throw (env : Env) (o : SOpts) (n : Nat) (seen : List String) (c : SCtx) (k v : RT) (ctor : String) :
    (match schema env o (n+1) .date none seen c with | .throw _ => true | _ => false) = true ∧
    (match schema env o (n+1) .bigint none seen c with | .throw _ => true | _ => false) = true ∧
    (match schema env o (n+1) (.map k v) none seen c with | .throw _ => true | _ => false) = true ∧
    (match schema env o (n+1) (.set v) none seen c with | .throw _ => true | _ => false) = true ∧
    (match schema env o (n+1) (.typed ctor) none seen c with | .throw _ => true | _ => false) = true :=
  ⟨rfl, rfl, rfl, rfl, rfl⟩

/-- an exception inside a nested position propagates: an object with a Date property cannot be printed. -/
theorem nested_nonjson_throws :
    (match schema [] flat 20 (.object [("a", .typeof "string"), ("d", .date)] []) none [] ⟨[], []⟩ with
      | .throw _ => true | _ => false) = true ∧
    (match schema [] ctxOpts 20 (.array (.tuple [.typeof "number", .bigint] none)) none [] ⟨[], []⟩ with
      | .throw _ => true | _ => false) = true := by decide +kernel

/-- the repaired D19 and D13, kernel-checked on the model: a tuple schema requires its prefix items, and a template
literal schema carries the anchored regular expression -/
theorem tuple_schema_has_minItems :
    (match schema [] flat 20 (.tuple [.typeof "string", .typeof "number"] none) none [] ⟨[], []⟩ with
      | .ok s _ => (match valid P0 20 s (.arr [.str "a"]), valid P0 20 s (.arr [.str "a", .num "1"]) with
        | some false, some true => true | _, _ => false)
      | _ => false) = true := by decide +kernel

theorem template_schema_pattern :
    (match schema [] flat 20 (.regex [.lit "a", .number] "`a${number}`") none [] ⟨[], []⟩ with
      | .ok (.obj kvs) _ => (match lookupProp kvs "pattern" with
        | some (.str p) => p == "^(?:(a)(\\d+(\\.\\d+)?))$" | _ => false)
      | _ => false) = true := by decide +kernel

/-- D48 witness: a REQUIRED property whose type accepts undefined: the validator accepts `{}`, the schema rejects it -/
theorem required_undefined_accepting_prop :
    validate [] true 20 (.object [("a", .any)] []) (.obj []) = .ok true ∧
    (match schema [] flat 20 (.object [("a", .any)] []) none [] ⟨[], []⟩ with
      | .ok s _ => (match valid P0 20 s (.obj []) with | some false => true | _ => false)
      | _ => false) = true := by decide +kernel

end BeffVerif.C02
