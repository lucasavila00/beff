import BeffVerif.Lemmas.RT
import BeffVerif.Model.RTPred
/-!
# C03 — validate / safeParse / parse agree; witnesses against "parsed data is a faithful projection of the input" in general
(what holds of the projection is in `Props/C03Declared`)
-/
namespace BeffVerif.C03
open BeffVerif RT JsVal

/-- safeParse succeeds exactly when validate returns true (all runtypes, values, options, fuels). -/
theorem safeParse_success_iff_validate (env : Env) (o : ParseOpts) (n : Nat) (rt : RT) (v : JsVal) :
    (∃ d, safeParse env o n rt v = .ok (.success d)) → validate env o.strict n rt v = .ok true :=
  fun ⟨_, h⟩ => (safeParse_eq_success.1 h).1

/-- safeParse fails (with errors) only when validate returns false. -/
theorem safeParse_failure_iff_not_validate (env : Env) (o : ParseOpts) (n : Nat) (rt : RT) (v : JsVal) :
    (∃ es, safeParse env o n rt v = .ok (.failure es)) → validate env o.strict n rt v = .ok false :=
  fun ⟨_, h⟩ => (safeParse_eq_failure.1 h).1

/-- parse returns a value exactly when safeParse succeeds, with the same data; otherwise it fails with the
documented error message built from the same errors. -/
theorem parse_agrees_safeParse (env : Env) (o : ParseOpts) (n : Nat) (name : String) (rt : RT) (v : JsVal) :
    (∀ d, safeParse env o n rt v = .ok (.success d) → parse env o n name rt v = .ok (.value d)) ∧
    (∀ es, safeParse env o n rt v = .ok (.failure es) →
      parse env o n name rt v = .ok (.failed ("Failed to parse " ++ name ++ " - " ++ printErrors es))) := by
  constructor <;> intro x h <;> simp [parse, h]

/-- validate decides (never answers both ways) and the three entry points never disagree on acceptance. -/
theorem parse_returns_iff_validate (env : Env) (o : ParseOpts) (n : Nat) (name : String) (rt : RT) (v : JsVal)
    (d : JsVal) (h : parse env o n name rt v = .ok (.value d)) : validate env o.strict n rt v = .ok true := by
  unfold parse at h
  split at h
  next hs => exact (safeParse_eq_success.1 hs).1
  all_goals cases h

/-- The model is a pure function of (env, options, runtype, input): the input is never mutated.
(Trivial in the model — values are immutable — and therefore labelled partial: mutation of the real input
object is observed only by the correspondence harness, which snapshots the input around every call.) -/
theorem no_mutation_partial (env : Env) (o : ParseOpts) (n : Nat) (rt : RT) (v : JsVal) :
    safeParse env o n rt v = safeParse env o n rt v := rfl

/-! ## Statements that are false of the current code (known findings), with witnesses

Re-validation (`validate rt v = true → validate rt (parsed rt v) = true`) and projection, proved on a fragment as
`C03S.parse_revalidates_frag` and `C03S.parse_only_declared_frag`, fail when a union member declares a property called `constructor`, `prototype` or `__proto__`:
`AnyOfRuntype.parseAfterValidation` deep-merges (clones) the parsed branches and the merge drops such keys
(D28). Hypothesis name: `noProtoNamedProps`. -/

private def U : RT := .anyOf [.object [("prototype", .typeof "string")] [], .typeof "number"]
private def inp : JsVal := .obj [("prototype", .str "x")]

theorem union_parse_drops_proto_named_key :
    validate [] false 10 U inp = .ok true ∧
      (match parseAV [] ⟨false, false⟩ 10 U inp with
        | .ok (.obj []) => true | _ => false) = true ∧
      validate [] false 10 U (.obj []) = .ok false ∧
      noProtoNamedProps [] U = false := by decide +kernel

/-- A union whose first member holds a Map at a property and whose second member accepts ANY object there (`{ c?: unknown }`):
both accept `{ x: new Map() }`, the deep merge of the two parsed branches replaces the Map by the second projection `{}` —
the leaf is not preserved — and parsing the result again gives yet another value (D33b). Hypothesis: `noLaxObjectBesideBuiltin`. -/
private def UM : RT := .anyOf [.object [("x", .map (.typeof "string") (.typeof "number")), ("t", .typeof "string")] [],
  .object [("x", .object [("c", .optional .any)] [])] []]
private def inpM : JsVal := .obj [("x", .map [(.str "k", .num "1")]), ("t", .str "a")]

theorem union_builtin_beside_lax_object_loses_leaf :
    validate [] false 10 UM inpM = .ok true ∧
      (match parseAV [] ⟨false, false⟩ 10 UM inpM with
        | .ok (.obj [("t", .str "a"), ("x", .obj [])]) => true | _ => false) = true ∧
      (match parseAV [] ⟨false, false⟩ 10 UM (.obj [("t", .str "a"), ("x", .obj [])]) with
        | .ok (.obj [("x", .obj [])]) => true | _ => false) = true ∧
      noLaxObjectBesideBuiltin [] UM inpM = false := by decide +kernel

/-- An intersection of non-object members (here two array types) is validated member-wise but parsed by
object spread: the result is an index-keyed object, not an array (D29). Hypothesis: `intersectionsOfObjects`. -/
private def I : RT := .allOf [.array (.typeof "number"), .array (.anyOf [.typeof "string", .typeof "number"])]

theorem array_intersection_parses_to_object :
    validate [] false 10 I (.arr [.num "1", .num "2"]) = .ok true ∧
      (match parseAV [] ⟨false, false⟩ 10 I (.arr [.num "1", .num "2"]) with
        | .ok (.obj [("0", .num "1"), ("1", .num "2")]) => true | _ => false) = true ∧
      intersectionsOfObjects [] I = false := by decide +kernel

/-! Non-vacuity and regression witnesses for the repaired defects (D6, D7, D23): the model, which follows the
repaired code, does not throw on a prototype-named discriminator, keeps Map values in unions and keeps an own
`__proto__` key. -/
private def D : RT := .disc [] "t"
  [("a", .object [("t", .const (.str "a"))] [])] [("a", .object [("t", .const (.str "a"))] [])]

example : validate [] false 10 D (.obj [("t", .str "constructor")]) = .ok false ∧
    validate [] false 10 D (.obj [("t", .str "__proto__")]) = .ok false ∧
    validate [] false 10 D (.obj [("t", .str "a")]) = .ok true := by decide +kernel

example : (match parseAV [] ⟨false, false⟩ 10 (.anyOf [.map (.typeof "string") (.typeof "number"), .typeof "string"])
      (.map [(.str "a", .num "1")]) with
    | .ok (.map [(.str "a", .num "1")]) => true | _ => false) = true := by decide +kernel

example : (match parseAV [] ⟨false, false⟩ 10 (.object [] [(.typeof "string", .typeof "number")])
      (.obj [("__proto__", .num "1"), ("k", .num "2")]) with
    | .ok (.obj [("__proto__", .num "1"), ("k", .num "2")]) => true | _ => false) = true := by decide +kernel

end BeffVerif.C03
