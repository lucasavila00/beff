import BeffVerif.Lemmas.RT
import BeffVerif.Model.RTPred
/-!
# C11 — strict mode rejects exactly the values that carry undeclared keys
-/
namespace BeffVerif.C11
open BeffVerif RT JsVal

/-- Monotonicity, full strength (every runtype, every environment, every value, every fuel): whenever both
modes answer, a value accepted with `disallowExtraProperties` is accepted in default mode. -/
theorem strict_implies_default (env : Env) (n : Nat) (rt : RT) (v : JsVal) (b : Bool)
    (hs : validate env true n rt v = .ok true) (hd : validate env false n rt v = .ok b) : b = true := by
  cases b with
  | true => rfl
  | false => exact absurd hd (validate_strict_mono env n rt v hs)

/-- One object position without index signature: strict acceptance = the declared properties are accepted
(strictly) and the value has no own key outside the declared ones. -/
theorem strict_object_iff (env : Env) (n : Nat) (props : List (String × RT)) (v : JsVal)
    (ho : (v.isObjectLike && !v.isArray) = true) :
    validate env true (n+1) (.object props []) v = .ok true ↔
      (∀ p ∈ props, validate env true n p.2 (v.getProp p.1) = .ok true) ∧
        (∀ k ∈ v.ownKeys, ∃ t, (k, t) ∈ props) := by
  rw [validate_succ]
  dsimp only [validateStep]
  rw [if_neg (by rw [ho]; exact Bool.false_ne_true), Res.andThen_eq_true, allShort_true_iff]
  refine and_congr_right fun _ => ?_
  show Res.ok ((v.ownKeys.filter fun k => !(props.map (·.1)).contains k).length == 0) = .ok true ↔ _
  rw [Res.ok.injEq, beq_iff_eq, List.length_eq_zero_iff, List.filter_eq_nil_iff]
  simp

/-- With an index signature the strict flag is irrelevant at that position (keys are judged by the signature), given `h`: the
two modes agree one fuel down. `C11O.strict_eq_default_of_open` is the statement without such a hypothesis. -/
theorem strict_irrelevant_with_index (env : Env) (n : Nat) (props : List (String × RT)) (ix : RT × RT)
    (ixs : List (RT × RT)) (v : JsVal)
    (h : ∀ t x, validate env true n t x = validate env false n t x) :
    validate env true (n+1) (.object props (ix :: ixs)) v = validate env false (n+1) (.object props (ix :: ixs)) v := by
  rw [validate_succ, validate_succ]
  exact validateStep_rel Res.respects_eq env _ v (fun t _ x => h t x) nofun nofun

/-! ## The full-strength statement is false of the current code (known finding D9)

`validate strict rt v ↔ validate default rt v ∧ (no undeclared key at any object position, counting all members of an
intersection)` (proved on a fragment as `C11F.strict_iff_default_and_noExtra`) fails for an intersection of two named object types: each member is
checked with the same flag against the WHOLE value, so a key declared by the other member counts as extra. -/

private def A : RT := .object [("a", .typeof "string")] []
private def B : RT := .object [("b", .typeof "number")] []
private def env : Env := [("A", A), ("B", B)]
private def ab : JsVal := .obj [("a", .str "x"), ("b", .num "1")]

/-- `A & B` (named references) rejects `{a:"x", b:1}` in strict mode although every key is declared … -/
theorem split_intersection_rejects_declared_keys :
    validate env true 10 (.allOf [.ref "A", .ref "B"]) ab = .ok false ∧
      validate env false 10 (.allOf [.ref "A", .ref "B"]) ab = .ok true ∧
      noSplitIntersection env (.allOf [.ref "A", .ref "B"]) = false := by decide +kernel

/-- … while the merged literal object type (what `all_of` produces for inline members) accepts it. -/
theorem merged_intersection_accepts :
    validate env true 10 (.object [("a", .typeof "string"), ("b", .typeof "number")] []) ab = .ok true := by
  decide +kernel

/-- non-vacuity of `strict_implies_default` and of the object characterisation -/
example : validate env true 10 (.ref "A") (.obj [("a", .str "x")]) = .ok true ∧
    validate env true 10 (.ref "A") (.obj [("a", .str "x"), ("z", .null)]) = .ok false ∧
    validate env false 10 (.ref "A") (.obj [("a", .str "x"), ("z", .null)]) = .ok true := by decide +kernel

end BeffVerif.C11
