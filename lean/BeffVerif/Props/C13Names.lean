import BeffVerif.Model.Hash256
import BeffVerif.Lemmas.Sort
/-!
# C13 — what the digest does NOT depend on

The converse half of C13 (differences between validators that the stream does not see), for the token stream `h256` (the
digest is SHA-256 of its injective byte encoding); `hash32_described`, `hash32_property_order` are the first two for `hash()`:

* `h256_described`, `h256_alias_hop`: descriptions (JSDoc) and alias boundaries (a name that is just another name) are
  transparent;
* `object_property_order`, `disc_mapping_order`: the order in which properties / discriminator cases are written does
  not matter (they are written sorted; distinct keys);
* `h256_rename`: renaming the types of the environment, consistently and injectively, changes nothing — names never reach
  the stream (a back reference is an offset), for every runtype, recursive or not.
-/
namespace BeffVerif.C13N
open BeffVerif RT Sha JsVal

theorem h256_described (env : Env) (n : Nat) (d : String) (t : RT) (act : List (String × Nat)) (p : Nat) :
    h256 env (n+1) (.described d t) act p = h256 env n t act p := rfl

/-- a named type whose body is (a described) reference to another named type is that other type -/
theorem h256_alias_hop (env : Env) (n : Nat) (name other : String) (to : RT) (act : List (String × Nat)) (p : Nat)
    (hl : env.lookup name = some to) (hs : stripDescribed to = .ref other) :
    h256 env (n+1) (.ref name) act p = h256 env n (.ref other) act p := by
  dsimp only [h256]
  rw [hl]
  dsimp only
  rw [hs]

theorem strLe_total (a b : String) : strLe a b = true ∨ strLe b a = true :=
  (String.le_total a b).imp decide_eq_true decide_eq_true

theorem strLe_trans {a b c : String} (h1 : strLe a b = true) (h2 : strLe b c = true) : strLe a c = true :=
  decide_eq_true (String.le_trans (of_decide_eq_true h1) (of_decide_eq_true h2))

theorem strLe_antisymm {a b : String} (h1 : strLe a b = true) (h2 : strLe b a = true) : a = b :=
  String.le_antisymm (of_decide_eq_true h1) (of_decide_eq_true h2)

/-- entries with distinct keys: sorting by key does not see the order they were written in -/
theorem sortedProps_order {l1 l2 : List (String × RT)} (hp : l1.Perm l2) (hd : (l1.map (·.1)).Nodup) :
    sortedProps l1 = sortedProps l2 := by
  let le := fun (a b : String × RT) => strLe a.1 b.1
  have htot : ∀ a b, le a b = true ∨ le b a = true := fun a b => strLe_total a.1 b.1
  have htrans : ∀ a b c, le a b = true → le b c = true → le a c = true := fun a b c h1 h2 => strLe_trans h1 h2
  have p1 := C10.sortBy_perm le l1
  -- distinct keys: entries of `l1` with the same key are the same entry
  have hk : l1.Pairwise fun a b => a.1 = b.1 → a = b := (List.pairwise_map.1 hd).imp fun hne he => absurd he hne
  have key := hk.forall_of_forall_of_flip (fun _ _ _ => rfl) (hk.imp fun h he => (h he.symm).symm)
  exact List.Perm.eq_of_pairwise
    (fun a b ha hb h1 h2 => key (p1.mem_iff.1 ha) (hp.mem_iff.2 ((C10.sortBy_perm le l2).mem_iff.1 hb))
      (strLe_antisymm h1 h2))
    (C10.sortBy_sorted le htot htrans l1) (C10.sortBy_sorted le htot htrans l2)
    ((p1.trans hp).trans (C10.sortBy_perm le l2).symm)

/-- **property order**: two object validators whose declared properties are the same entries in another order (distinct
names) write the same stream -/
theorem object_property_order (env : Env) (n : Nat) (props1 props2 : List (String × RT)) (ix : List (RT × RT))
    (act : List (String × Nat)) (p : Nat) (hp : props1.Perm props2) (hd : (props1.map (·.1)).Nodup) :
    h256 env n (.object props1 ix) act p = h256 env n (.object props2 ix) act p := by
  cases n with
  | zero => rfl
  | succ n => dsimp only [h256]; rw [sortedProps_order hp hd, hp.length_eq]

/-- … and the cases of a discriminated union likewise -/
theorem disc_mapping_order (env : Env) (n : Nat) (schemas : List RT) (key : String) (m1 m2 sm : List (String × RT))
    (act : List (String × Nat)) (p : Nat) (hp : m1.Perm m2) (hd : (m1.map (·.1)).Nodup) :
    h256 env n (.disc schemas key m1 sm) act p = h256 env n (.disc schemas key m2 sm) act p := by
  cases n with
  | zero => rfl
  | succ n => dsimp only [h256]; rw [sortedProps_order hp hd, hp.length_eq]

mutual
/-- rename every reference -/
def ren (ρ : String → String) : RT → RT
  | .tuple pre rest => .tuple (renL ρ pre) (renO ρ rest)
  | .allOf ts => .allOf (renL ρ ts)
  | .anyOf ts => .anyOf (renL ρ ts)
  | .array t => .array (ren ρ t)
  | .map k v => .map (ren ρ k) (ren ρ v)
  | .set t => .set (ren ρ t)
  | .disc ss key m sm => .disc (renL ρ ss) key (renSL ρ m) (renSL ρ sm)
  | .optional t => .optional (ren ρ t)
  | .object props ix => .object (renSL ρ props) (renPL ρ ix)
  | .ref name => .ref (ρ name)
  | .described d t => .described d (ren ρ t)
  | .typeof t => .typeof t
  | .any => .any
  | .nullish d => .nullish d
  | .never => .never
  | .const v => .const v
  | .regex tpl d => .regex tpl d
  | .date => .date
  | .bigint => .bigint
  | .typed c => .typed c
  | .strfmt fs => .strfmt fs
  | .numfmt fs => .numfmt fs
  | .consts vs => .consts vs
def renL (ρ : String → String) : List RT → List RT
  | [] => []
  | t :: ts => ren ρ t :: renL ρ ts
def renO (ρ : String → String) : Option RT → Option RT
  | none => none
  | some t => some (ren ρ t)
def renSL (ρ : String → String) : List (String × RT) → List (String × RT)
  | [] => []
  | (k, t) :: ps => (k, ren ρ t) :: renSL ρ ps
def renPL (ρ : String → String) : List (RT × RT) → List (RT × RT)
  | [] => []
  | (a, b) :: ps => (ren ρ a, ren ρ b) :: renPL ρ ps
end

def renEnv (ρ : String → String) (env : Env) : Env := env.map fun e => (ρ e.1, ren ρ e.2)
def renAct (ρ : String → String) (act : List (String × Nat)) : List (String × Nat) := act.map fun q => (ρ q.1, q.2)

section
variable (ρ : String → String)

theorem renL_eq_map : ∀ (ts : List RT), renL ρ ts = ts.map (ren ρ)
  | [] => rfl
  | t :: ts => by rw [renL, renL_eq_map ts, List.map_cons]

theorem renSL_eq_map : ∀ (l : List (String × RT)), renSL ρ l = l.map fun p => (p.1, ren ρ p.2)
  | [] => rfl
  | (k, t) :: ps => by rw [renSL, renSL_eq_map ps, List.map_cons]

theorem renPL_eq_map : ∀ (l : List (RT × RT)), renPL ρ l = l.map fun p => (ren ρ p.1, ren ρ p.2)
  | [] => rfl
  | (a, b) :: ps => by rw [renPL, renPL_eq_map ps, List.map_cons]

theorem seqT_map {α β : Type} (g : α → β) (f : β → Nat → Option (List Tok)) : ∀ (l : List α),
    seqT f (l.map g) = seqT (fun x => f (g x)) l
  | [] => rfl
  | x :: xs => by
    funext q
    rw [List.map_cons, seqT, seqT, seqT_map g f xs]

theorem sortBy_map {α β : Type} (g : α → β) {le : α → α → Bool} {le' : β → β → Bool} (h : ∀ a b, le' (g a) (g b) = le a b) :
    ∀ (l : List α), sortBy le' (l.map g) = (sortBy le l).map g
  | [] => rfl
  | x :: xs => by
    have ins : ∀ (ys : List α), insertBy le' (g x) (ys.map g) = (insertBy le x ys).map g := by
      intro ys
      induction ys with
      | nil => rfl
      | cons y ys ih =>
        rw [List.map_cons, insertBy, insertBy, h, ih]
        cases le x y <;> rfl
    rw [List.map_cons, sortBy, List.foldr_cons, ← sortBy, sortBy_map g h xs, ins]
    rfl

theorem sortedProps_map_snd (g : RT → RT) (l : List (String × RT)) :
    sortedProps (l.map fun p => (p.1, g p.2)) = (sortedProps l).map fun p => (p.1, g p.2) :=
  sortBy_map _ (fun _ _ => rfl) l

theorem stripDescribed_ren : ∀ (t : RT), stripDescribed (ren ρ t) = ren ρ (stripDescribed t)
  | .described _ t => stripDescribed_ren t
  | .tuple .. | .allOf _ | .anyOf _ | .array _ | .map .. | .set _ | .disc .. | .optional _ | .object .. | .ref _
  | .typeof _ | .any | .nullish _ | .never | .const _ | .regex .. | .date | .bigint | .typed _ | .strfmt _
  | .numfmt _ | .consts _ => rfl

theorem isOptionalField_ren (t : RT) : isOptionalField (ren ρ t) = isOptionalField t := by
  unfold isOptionalField
  rw [stripDescribed_ren]
  cases stripDescribed t <;> rfl

end

section
variable {ρ : String → String} (hρ : ∀ a b, ρ a = ρ b → a = b)

include hρ in
theorem beq_ren (a b : String) : (ρ a == ρ b) = (a == b) :=
  Bool.eq_iff_iff.2 ⟨fun h => beq_iff_eq.2 (hρ _ _ (beq_iff_eq.1 h)), fun h => beq_iff_eq.2 (congrArg ρ (beq_iff_eq.1 h))⟩

include hρ in
theorem lookup_renEnv (env : Env) (name : String) : (renEnv ρ env).lookup (ρ name) = (env.lookup name).map (ren ρ) := by
  unfold Env.lookup renEnv
  rw [List.find?_map]
  simp only [Function.comp_def, beq_ren hρ]
  cases env.find? (fun p => p.1 == name) <;> rfl

include hρ in
theorem find_renAct (act : List (String × Nat)) (name : String) :
    (renAct ρ act).find? (fun q => q.1 == ρ name) = (act.find? (fun q => q.1 == name)).map (fun q => (ρ q.1, q.2)) := by
  unfold renAct
  rw [List.find?_map]
  simp only [Function.comp_def, beq_ren hρ]

include hρ in
/-- **names never reach the stream**: renaming the named types of the environment injectively, and every reference with
them, gives the same tokens — for every runtype, set of types under expansion, offset and fuel -/
theorem h256_rename (env : Env) : ∀ (n : Nat) (rt : RT) (act : List (String × Nat)) (p : Nat),
    h256 (renEnv ρ env) n (ren ρ rt) (renAct ρ act) p = h256 env n rt act p := by
  intro n
  induction n with
  | zero => intro rt act p; rfl
  | succ n ih =>
    intro rt act p
    cases rt with
    | tuple pre rest =>
      cases rest <;>
      · dsimp only [ren, renO, h256]
        simp only [renL_eq_map, List.length_map, seqT_map, ih]
    | ref name =>
      dsimp only [ren, h256]
      rw [lookup_renEnv hρ]
      cases env.lookup name with
      | none => rfl
      | some to =>
        -- both sides are brought to the same continuation before the form of the definition is looked at
        dsimp only [Option.map_some]
        rw [stripDescribed_ren, find_renAct hρ,
          show h256 (renEnv ρ env) n (ren ρ to) ((ρ name, p) :: renAct ρ act) p = _ from ih to ((name, p) :: act) p]
        cases act.find? (fun q => q.1 == name) <;>
          cases stripDescribed to with
          | ref other => exact ih (.ref other) act p
          | _ => rfl
    | typeof _ | any | nullish _ | never | const _ | regex _ _ | date | bigint | typed _ | strfmt _ | numfmt _
    | consts _ => rfl
    | described d t => exact ih t act p
    | _ =>
      dsimp only [ren, h256]
      simp only [renL_eq_map, renSL_eq_map, renPL_eq_map, sortedProps_map_snd, List.length_map, seqT_map,
        isOptionalField_ren, ih]

include hρ in
/-- at the root: the token stream of a parser does not depend on what its types are called -/
theorem hash256Toks_rename (env : Env) (rt : RT) : hash256Toks (renEnv ρ env) (ren ρ rt) = hash256Toks env rt :=
  congrArg (Option.map (rootToks ++ ·)) (h256_rename hρ env h256Fuel rt [] (bytesLen rootToks))

end

/-- descriptions are invisible to `hash()` -/
theorem hash32_described (env : Env) (n : Nat) (d : String) (t : RT) (seen : List String) :
    RT.hash env (n+1) (.described d t) seen = RT.hash env n t seen := rfl

/-- `hash()` of an object does not depend on the order its properties were written in (distinct names) -/
theorem hash32_property_order (env : Env) (n : Nat) (props1 props2 : List (String × RT)) (ix : List (RT × RT))
    (seen : List String) (hp : props1.Perm props2) (hd : (props1.map (·.1)).Nodup) :
    RT.hash env n (.object props1 ix) seen = RT.hash env n (.object props2 ix) seen := by
  cases n with
  | zero => rfl
  | succ n =>
    have := sortedProps_order hp hd
    unfold sortedProps at this
    dsimp only [RT.hash]
    rw [this]

private def pA : List (String × RT) := [("b", .typeof "number"), ("a", .optional (.typeof "string"))]
private def pB : List (String × RT) := [("a", .optional (.typeof "string")), ("b", .typeof "number")]

/-- two spellings of one object type: the hypotheses hold, and the token streams and the 32-bit hashes are equal as the theorems say -/
example : pA.Perm pB ∧ (pA.map (·.1)).Nodup ∧
    hash256Toks [] (.object pA []) = hash256Toks [] (.object pB []) ∧ (hash256Toks [] (.object pA [])).isSome = true ∧
    RT.hash [] 10 (.object pA []) [] = RT.hash [] 10 (.object pB []) [] := by
  have hp : pA.Perm pB := List.Perm.swap _ _ _
  have hd : (pA.map (·.1)).Nodup := by decide
  exact ⟨hp, hd, congrArg (Option.map (rootToks ++ ·)) (object_property_order [] _ pA pB [] [] _ hp hd), by decide +kernel,
    hash32_property_order [] 10 pA pB [] [] hp hd⟩

end BeffVerif.C13N
